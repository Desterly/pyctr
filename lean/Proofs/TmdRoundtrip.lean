/-
  C11: `load` on a serialised well-formed value (`WFv`).  `load_segsWith` evaluates it with the chunk-record area replaced by
  arbitrary bytes: the round trip is the case of the original area, and the tamper result for chunk records reads off the same
  equation.  The info block is covered by the header hash, which `load` checks before anything else (`load_hash_check`).
-/
import Proofs.TmdRecords
namespace Pyctr
namespace Tmd

/-- A value that `__bytes__` serialises and `load` reads back, for the signature type whose sizes are `sz` and `pad`.
    `pk`: the `struct.pack` / `to_bytes` ranges; no info record is all zero (`load` skips such slots); `hH`: what `H` returns
    fills the header's hash field. -/
structure WFv (H : Bytes → Bytes) (t : T) (sz pad : Nat) : Prop where
  sig : sigInfo t.sigType = some (sz, pad)
  sig_len : t.signature.length = sz
  issuer_len : t.issuer.length ≤ 64
  issuer_ascii : ∀ b ∈ t.issuer, b < 0x80
  issuer_nonul : ∀ b, t.issuer.getLast? = some b → b ≠ 0
  pk : packable t
  l_sysver : t.systemVersion.length = 8
  l_tid : t.titleId.length = 8
  l_ttype : t.titleType.length = 4
  l_gid : t.groupId.length = 2
  l_r2 : t.reserved2.length = 4
  l_r3 : t.reserved3.length = 0x31
  l_ar : t.accessRights.length = 4
  l_boot : t.bootCount.length = 2
  l_pad : t.padding.length = 2
  ver : t.titleVersion.major < 64 ∧ t.titleVersion.minor < 64 ∧ t.titleVersion.micro < 16
  chunks : ∀ c ∈ t.chunkRecords, WfChunk c
  infos : ∀ r ∈ t.infoRecords, WfInfo r
  infos_len : t.infoRecords.length ≤ 64
  hH : (H (infoBlock t.infoRecords)).length = 32
  verified : verifyInfo H t.chunkRecords t.infoRecords [] = .ok ()

theorem infoBlock_length (rs : List InfoRecord) (hwf : ∀ r ∈ rs, WfInfo r) (hlen : rs.length ≤ 64) :
    (infoBlock rs).length = 0x900 := by
  simp only [infoBlock, List.length_append, zeros_length,
    length_flatMap_const _ 0x24 rs (fun r hr => InfoRecord.bytes_length r (hwf r hr))]
  omega

theorem chunks_length (cs : List ChunkRecord) (hwf : ∀ c ∈ cs, WfChunk c) :
    (cs.flatMap ChunkRecord.bytes).length = 0x30 * cs.length :=
  length_flatMap_const _ _ cs (fun c hc => ChunkRecord.bytes_length c (hwf c hc))

/-- `segments` with an arbitrary chunk-record area `raw` -/
def segsWith (H : Bytes → Bytes) (t : T) (sz pad : Nat) (raw : Bytes) : List Bytes :=
  let info := infoBlock t.infoRecords
  [toBE 4 t.sigType, packS sz t.signature, zeros pad,
   packS 64 t.issuer, [UInt8.ofNat t.version], [UInt8.ofNat t.caCrl], [UInt8.ofNat t.signerCrl],
   [UInt8.ofNat t.reserved1], packS 8 t.systemVersion, packS 8 t.titleId, packS 4 t.titleType, packS 2 t.groupId,
   toLE 4 t.saveSize, toLE 4 t.srlSaveSize, packS 4 t.reserved2, [UInt8.ofNat t.srlFlag],
   packS 49 t.reserved3, packS 4 t.accessRights, toBE 2 t.titleVersion.toInt,
   toBE 2 t.chunkRecords.length, packS 2 t.bootCount, packS 2 t.padding, packS 32 (H info),
   info, raw]

def hdrSegs (H : Bytes → Bytes) (t : T) : List Bytes := ((segsWith H t 0 0 []).drop 3).take 20

theorem segsWith_flatten (H : Bytes → Bytes) (t : T) (sz pad : Nat) (raw : Bytes) :
    (segsWith H t sz pad raw).flatten =
      [toBE 4 t.sigType, packS sz t.signature, zeros pad, (hdrSegs H t).flatten, infoBlock t.infoRecords, raw].flatten := by
  simp [segsWith, hdrSegs]

theorem hdrSegs_length (H : Bytes → Bytes) (t : T) : (hdrSegs H t).flatten.length = 0xC4 := by
  simp [hdrSegs, segsWith, packS_length]

theorem segsWith_length (H : Bytes → Bytes) (t : T) (sz pad : Nat) (raw : Bytes) (hinfo : (infoBlock t.infoRecords).length = 0x900)
    (hchunks : raw.length = 0x30 * t.chunkRecords.length) :
    (segsWith H t sz pad raw).flatten.length = 4 + sz + pad + 0xC4 + 0x900 + 0x30 * t.chunkRecords.length := by
  simp only [segsWith_flatten, List.flatten_cons, List.flatten_nil, List.length_append, List.length_nil, toBE_length,
    packS_length, zeros_length, hdrSegs_length, hinfo, hchunks]
  omega

theorem sigInfo_lt (ty sz pad : Nat) (h : sigInfo ty = some (sz, pad)) : ty < 256 ^ 4 := by
  apply Classical.byContradiction; intro hge
  have : sigInfo ty = none := by
    unfold sigInfo
    rw [if_neg (by omega), if_neg (by omega), if_neg (by omega), if_neg (by omega), if_neg (by omega), if_neg (by omega)]
  rw [this] at h; cases h

theorem load_segsWith (H : Bytes → Bytes) (t : T) (sz pad : Nat) (w : WFv H t sz pad) (raw : Bytes)
    (hchunks : raw.length = 0x30 * t.chunkRecords.length) :
    load H true (segsWith H t sz pad raw).flatten =
      match verifyInfo H (chunkList raw t.chunkRecords.length 0) t.infoRecords [] with
      | .error e => .error e
      | .ok () => .ok { t with chunkRecords := chunkList raw t.chunkRecords.length 0 } := by
  have hinfo := infoBlock_length t.infoRecords w.infos w.infos_len
  obtain ⟨pv, pca, psc, pr1, psf, psave, psrl, pver, pcnt⟩ := w.pk
  -- the six parts of the file, then the twenty fields of the header
  have O := laid_flatten [toBE 4 t.sigType, packS sz t.signature, zeros pad, (hdrSegs H t).flatten, infoBlock t.infoRecords, raw]
  have F := laid_flatten (hdrSegs H t)
  rw [← segsWith_flatten] at O
  have hhl := hdrSegs_length H t
  generalize (segsWith H t sz pad raw).flatten = b at *
  generalize (hdrSegs H t).flatten = hdr at *
  simp only [Laid, toBE_length, packS_length, zeros_length, hhl, hinfo, hchunks, Nat.zero_add] at O
  obtain ⟨s0, s1, -, sh, si, sr, -⟩ := O
  simp only [hdrSegs, segsWith, List.drop_succ_cons, List.drop_zero, List.take_succ_cons, List.take_zero, Laid, toBE_length,
    toLE_length, packS_length, List.length_cons, List.length_nil, Nat.zero_add, Nat.reduceAdd] at F
  have hany : (t.issuer ++ zeros (64 - t.issuer.length)).any (fun x => decide (x ≥ 128)) = false :=
    List.any_eq_false.mpr fun x hx => by
      rcases List.mem_append.mp hx with hx | hx
      · simpa using w.issuer_ascii x hx
      · rw [List.eq_of_mem_replicate hx]; decide
  -- `load` reads `contentCount * 0x30` bytes of chunk records
  rw [Nat.mul_comm] at sr
  unfold load
  simp only [
    s0, readBE_toBE 4 _ (sigInfo_lt _ _ _ w.sig), w.sig, s1, packS_full _ _ w.sig_len, sh, hhl, si, hinfo, sr,
    ne_eq, not_true_eq_false, if_false, F, packS_full _ _ w.hH, bne_self_eq_false, Bool.and_false, Bool.false_eq_true,
    readBE_toBE 2 _ pcnt, infoList_block _ w.infos w.infos_len 64 0 rfl, List.drop_zero,
    packS_short _ _ w.issuer_len, hany, rstripNul_append_zeros _ _ w.issuer_nonul,
    getD_eq_slice, List.headD_cons,
    UInt8.toNat_ofNat_of_lt' pv, UInt8.toNat_ofNat_of_lt' pca, UInt8.toNat_ofNat_of_lt' psc, UInt8.toNat_ofNat_of_lt' pr1,
    UInt8.toNat_ofNat_of_lt' psf,
    packS_full _ _ w.l_sysver, packS_full _ _ w.l_tid, packS_full _ _ w.l_ttype, packS_full _ _ w.l_gid,
    readLE_toLE 4 t.saveSize psave, readLE_toLE 4 t.srlSaveSize psrl,
    packS_full _ _ w.l_r2, packS_full _ _ w.l_r3, packS_full _ _ w.l_ar, readBE_toBE 2 _ pver,
    Version.ofInt_toInt _ w.ver.1 w.ver.2.1 w.ver.2.2, packS_full _ _ w.l_boot, packS_full _ _ w.l_pad]
  cases verifyInfo H (chunkList raw t.chunkRecords.length 0) t.infoRecords [] <;> rfl

theorem segments_eq_segsWith (H : Bytes → Bytes) (t : T) (sz pad : Nat) :
    segments H t sz pad = segsWith H t sz pad (t.chunkRecords.flatMap ChunkRecord.bytes) := rfl

theorem load_serialize (H : Bytes → Bytes) (t : T) (sz pad : Nat) (w : WFv H t sz pad) :
    serialize H t = some (segments H t sz pad).flatten ∧
    load H true (segments H t sz pad).flatten = .ok t := by
  refine ⟨by simp [serialize, w.sig, w.pk], ?_⟩
  rw [segments_eq_segsWith, load_segsWith H t sz pad w _ (chunks_length t.chunkRecords w.chunks),
    chunkList_flatMap t.chunkRecords w.chunks t.chunkRecords.length 0 (Nat.zero_add _), List.drop_zero, w.verified]

theorem load_hash_check (H : Bytes → Bytes) (b : Bytes) (sz pad h0 : Nat) (hh0 : h0 = 4 + sz + pad)
    (hsig : sigInfo (readBE (slice b 0 4)) = some (sz, pad)) (hlen : h0 + 0xC4 + 0x900 ≤ b.length)
    (hne : H (slice b (h0 + 0xC4) 0x900) ≠ slice (slice b h0 0xC4) 0xA4 0x20) :
    load H true b = .error (.other "InvalidHashError") := by
  subst hh0
  unfold load
  have h1 : (slice b (4 + sz + pad) 0xC4).length = 0xC4 := by rw [slice_length]; omega
  have h2 : (slice b (4 + sz + pad + 0xC4) 0x900).length = 0x900 := by rw [slice_length]; omega
  have h3 : (H (slice b (4 + sz + pad + 0xC4) 0x900) != slice (slice b (4 + sz + pad) 0xC4) 0xA4 0x20) = true := by
    simpa using hne
  simp only [hsig, h1, h2, ne_eq, not_true_eq_false, if_false, Bool.true_and, h3, if_true]

theorem tamper_info_of_load (H : Bytes → Bytes) (b b' : Bytes) (t : T) (sz pad h0 : Nat) (hh0 : h0 = 4 + sz + pad)
    (hload : load H true b = .ok t) (hsig : sigInfo (readBE (slice b 0 4)) = some (sz, pad))
    (hbl : h0 + 0xC4 + 0x900 ≤ b.length) (hlen : b'.length = b.length)
    (hout : ∀ i, (i < h0 + 0xC4 ∨ h0 + 0xC4 + 0x900 ≤ i) → b'[i]? = b[i]?) (hdiff : b' ≠ b) :
    load H true b' = .error (.other "InvalidHashError") ∨ Collision H := by
  have e0 : slice b' 0 4 = slice b 0 4 := slice_congr _ _ _ _ (fun i _ h2 => hout i (Or.inl (by omega)))
  have eh : slice b' h0 0xC4 = slice b h0 0xC4 := slice_congr _ _ _ _ (fun i _ h2 => hout i (Or.inl (by omega)))
  have hraw : slice b' (h0 + 0xC4) 0x900 ≠ slice b (h0 + 0xC4) 0x900 := fun heq => hdiff (eq_of_slice_eq b b' _ _ hout heq)
  have horig : H (slice b (h0 + 0xC4) 0x900) = slice (slice b h0 0xC4) 0xA4 0x20 := by
    apply Classical.byContradiction; intro hne
    have := load_hash_check H b sz pad h0 hh0 hsig hbl hne
    rw [hload] at this; cases this
  by_cases hH : H (slice b' (h0 + 0xC4) 0x900) = H (slice b (h0 + 0xC4) 0x900)
  · exact Or.inr ⟨_, _, hraw, hH⟩
  · left
    apply load_hash_check H b' sz pad h0 hh0 (by rw [e0]; exact hsig) (by omega)
    rw [eh, ← horig]; exact hH

/-- the chunk records an info record covers -/
def covered (cs : List ChunkRecord) (ir : InfoRecord) : List ChunkRecord := (cs.drop ir.indexOffset).take ir.commandCount

theorem verifyInfo_ok (H : Bytes → Bytes) (cs : List ChunkRecord) (irs : List InfoRecord) (hashed : List ChunkRecord)
    (h : verifyInfo H cs irs hashed = .ok ()) : ∀ ir ∈ irs, H ((covered cs ir).flatMap ChunkRecord.bytes) = ir.hash := by
  induction irs generalizing hashed with
  | nil => intro ir hir; cases hir
  | cons a rest ih =>
    intro ir hir
    simp only [verifyInfo] at h
    split at h
    · cases h
    · rename_i hashed' _
      split at h
      · cases h
      · rename_i hne
        rcases List.mem_cons.mp hir with rfl | hm
        · simpa [covered] using hne
        · exact ih hashed' h ir hm

/-- so the serialisation of parsed records determines them (`flatMap_bytes_inj`) -/
theorem ChunkRecord.ofBytes_wf (raw : Bytes) (h : raw.length = 0x30) : WfChunk (ChunkRecord.ofBytes raw) := by
  refine ⟨?_, ?_, ?_, ?_⟩
  · simp [ChunkRecord.ofBytes, slice_length, h]
  · have := readBE_lt (slice raw 4 2); simp only [slice_length, h] at this; simpa [ChunkRecord.ofBytes] using this
  · have := readBE_lt (slice raw 8 8); simp only [slice_length, h] at this; simpa [ChunkRecord.ofBytes] using this
  · simp [ChunkRecord.ofBytes, slice_length, h]

theorem chunkList_wf (raw : Bytes) (n i : Nat) (h : 0x30 * (i + n) ≤ raw.length) :
    ∀ c ∈ chunkList raw n i, WfChunk c := by
  induction n generalizing i with
  | zero => intro c hc; cases hc
  | succ m ih =>
    intro c hc
    simp only [chunkList, List.mem_cons] at hc
    rcases hc with rfl | hc
    · exact ChunkRecord.ofBytes_wf _ (by rw [slice_length]; omega)
    · exact ih (i + 1) (by omega) c hc

theorem flatMap_bytes_inj (l1 l2 : List ChunkRecord) (h1 : ∀ c ∈ l1, WfChunk c) (h2 : ∀ c ∈ l2, WfChunk c)
    (hl : l1.length = l2.length) (he : l1.flatMap ChunkRecord.bytes = l2.flatMap ChunkRecord.bytes) : l1 = l2 := by
  induction l1 generalizing l2 with
  | nil => cases l2 with
    | nil => rfl
    | cons _ _ => simp at hl
  | cons a t ih =>
    cases l2 with
    | nil => simp at hl
    | cons b u =>
      have la := ChunkRecord.bytes_length a (h1 a (by simp))
      have lb := ChunkRecord.bytes_length b (h2 b (by simp))
      have hab : a.bytes = b.bytes ∧ t.flatMap ChunkRecord.bytes = u.flatMap ChunkRecord.bytes :=
        List.append_inj he (by rw [la, lb])
      have : a = b := by
        rw [← ChunkRecord.ofBytes_bytes a (h1 a (by simp)), ← ChunkRecord.ofBytes_bytes b (h2 b (by simp)), hab.1]
      rw [this, ih u (fun c hc => h1 c (by simp [hc])) (fun c hc => h2 c (by simp [hc])) (by simpa using hl) hab.2]

theorem covered_eq_of_verify (H : Bytes → Bytes) (cs cs' : List ChunkRecord) (irs : List InfoRecord) (hl : cs'.length = cs.length)
    (hwf : ∀ c ∈ cs, WfChunk c) (hwf' : ∀ c ∈ cs', WfChunk c) (hv : verifyInfo H cs irs [] = .ok ())
    (hv' : verifyInfo H cs' irs [] = .ok ()) : (∀ ir ∈ irs, covered cs' ir = covered cs ir) ∨ Collision H := by
  by_cases hall : ∀ ir ∈ irs, (covered cs' ir).flatMap ChunkRecord.bytes = (covered cs ir).flatMap ChunkRecord.bytes
  · left
    intro ir hir
    apply flatMap_bytes_inj _ _ _ _ _ (hall ir hir)
    · intro c hc; exact hwf' c (List.mem_of_mem_drop (List.mem_of_mem_take hc))
    · intro c hc; exact hwf c (List.mem_of_mem_drop (List.mem_of_mem_take hc))
    · simp [covered, hl]
  · right
    obtain ⟨ir, h1⟩ := Classical.not_forall.mp hall
    obtain ⟨hir, hne⟩ := Classical.not_imp.mp h1
    exact ⟨_, _, hne, by rw [verifyInfo_ok H _ _ _ hv' ir hir, verifyInfo_ok H _ _ _ hv ir hir]⟩

end Tmd
end Pyctr
