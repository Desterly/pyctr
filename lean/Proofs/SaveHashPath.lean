/-
  C18 (hash path): after a write through the hash tree every touched block, and every block that verified before, has an
  intact chain up to the (updated) master hashes (`absWrite_spec`), and the verdict of every untouched block stays what it was
  (`absWrite_stable`); stated on the levels as byte arrays (`absWrite`).
-/
import Proofs.SaveTamper
import Proofs.SaveBlocks
namespace Pyctr
namespace Save
variable (H : Bytes → Bytes) (bsOf : Nat → Nat)

theorem absLevelWrite_in (A : Bytes) (off : Nat) (data : Bytes) (h : off + data.length ≤ A.length) :
    absLevelWrite A off data = overlay A off data := by
  unfold absLevelWrite
  simp only
  rw [Nat.min_eq_left (by omega), List.take_of_length_le (by omega)]

theorem blockHashes_length (A : Bytes) (bs sb n : Nat) : (blockHashes H A bs sb n).length = n := by
  simp [blockHashes]

theorem blockHashes_getElem? (A : Bytes) (bs sb n i : Nat) (hi : i < n) :
    (blockHashes H A bs sb n)[i]? = some (H (ljustZero (slice A ((sb + i) * bs) bs) bs)) := by
  simp [blockHashes, hi]

theorem foldSet_length (sb : Nat) (hashes : List Bytes) (l : List Nat) : ∀ master : List Bytes,
    (l.foldl (fun (m : List Bytes) i => m.set (sb + i) (hashes.getD i [])) master).length = master.length := by
  induction l with
  | nil => exact fun _ => rfl
  | cons i r ih => intro master; rw [List.foldl_cons, ih, List.length_set]

theorem setMaster_length (master : List Bytes) (sb : Nat) (hashes : List Bytes) : (setMaster master sb hashes).length = master.length :=
  foldSet_length sb hashes _ master

theorem setMaster_getElem? (master : List Bytes) (sb : Nat) (hashes : List Bytes) (b : Nat) (hm : sb + hashes.length ≤ master.length) :
    (setMaster master sb hashes)[b]? = if sb ≤ b ∧ b < sb + hashes.length then hashes[b - sb]? else master[b]? := by
  have key : ∀ (n : Nat), n ≤ hashes.length →
      ((List.range n).foldl (fun (m : List Bytes) i => m.set (sb + i) (hashes.getD i [])) master)[b]? =
        if sb ≤ b ∧ b < sb + n then hashes[b - sb]? else master[b]? := by
    intro n
    induction n with
    | zero => intro _; rw [if_neg (by omega)]; rfl
    | succ n ih =>
      intro hn
      rw [List.range_succ, List.foldl_append]
      simp only [List.foldl_cons, List.foldl_nil]
      rw [List.getElem?_set, foldSet_length]
      by_cases hb : sb + n = b
      · subst hb
        rw [if_pos rfl, if_pos (by omega), if_pos (by omega), Nat.add_sub_cancel_left, List.getD_eq_getElem?_getD,
          List.getElem?_eq_getElem (by omega)]
        rfl
      · rw [if_neg hb, ih (by omega)]
        by_cases hc : sb ≤ b ∧ b < sb + n
        · rw [if_pos hc, if_pos (by omega)]
        · rw [if_neg hc, if_neg (by omega)]
  exact key hashes.length (Nat.le_refl _)

theorem setMaster_mem (master : List Bytes) (sb : Nat) (hashes : List Bytes) (hm : sb + hashes.length ≤ master.length) (x : Bytes)
    (h : x ∈ setMaster master sb hashes) : x ∈ master ∨ x ∈ hashes := by
  obtain ⟨b, hb⟩ := List.mem_iff_getElem?.mp h
  rw [setMaster_getElem? _ _ _ _ hm] at hb
  split at hb
  · exact .inr (List.mem_of_getElem? hb)
  · exact .inl (List.mem_of_getElem? hb)

theorem block_untouched (A : Bytes) (offset : Nat) (data : Bytes) (bs b : Nat) (hbs : 0 < bs) (hlen : 0 < data.length)
    (hin : offset + data.length ≤ A.length) (hu : ¬ touched offset data.length bs b) :
    slice (overlay A offset data) (b * bs) bs = slice A (b * bs) bs :=
  slice_overlay_outside _ _ _ _ _ (untouched_disjoint _ _ _ _ hbs hlen hu) (Or.inl (by omega))

theorem padBlock_untouched (L L' : Nat → Bytes) (idx offset : Nat) (data : Bytes) (b : Nat) (hbs : 0 < bsOf idx) (hlen : 0 < data.length)
    (hL : L' idx = overlay (L idx) offset data) (hin : offset + data.length ≤ (L idx).length)
    (hu : ¬ touched offset data.length (bsOf idx) b) : padBlock bsOf L' idx b = padBlock bsOf L idx b := by
  unfold padBlock
  rw [hL, block_untouched _ _ _ _ _ hbs hlen hin hu]

theorem blockHashes_mem_length (A : Bytes) (bs sb n : Nat) (hH : ∀ x, (H x).length = 0x20) :
    ∀ x ∈ blockHashes H A bs sb n, x.length = 0x20 := by
  intro x hx
  simp only [blockHashes, List.mem_map] at hx
  obtain ⟨i, _, rfl⟩ := hx; exact hH _

theorem blockHashes_flatten_length (A : Bytes) (bs sb n : Nat) (hH : ∀ x, (H x).length = 0x20) :
    (blockHashes H A bs sb n).flatten.length = n * 0x20 := by
  rw [length_flatten_const _ _ (blockHashes_mem_length H A bs sb n hH), blockHashes_length]

theorem hashSlot_written (A U : Bytes) (bs sb n b : Nat) (hH : ∀ x, (H x).length = 0x20) (h1 : sb ≤ b) (h2 : b < sb + n) :
    slice (overlay U (sb * 0x20) (blockHashes H A bs sb n).flatten) (b * 0x20) 0x20 = H (ljustZero (slice A (b * bs) bs) bs) := by
  have hl := blockHashes_mem_length H A bs sb n hH
  have hf := blockHashes_flatten_length H A bs sb n hH
  rw [slice_overlay_inside _ _ _ _ _ (Nat.mul_le_mul_right _ h1) (by rw [hf]; omega), ← Nat.sub_mul,
    slice_flatten_const _ _ hl (b - sb) _ (blockHashes_getElem? H A bs sb n _ (by omega)), show sb + (b - sb) = b by omega]

theorem hashSlot_kept (A U : Bytes) (bs sb n b : Nat) (hH : ∀ x, (H x).length = 0x20) (h : b < sb ∨ sb + n ≤ b)
    (hin : sb * 0x20 ≤ U.length) :
    slice (overlay U (sb * 0x20) (blockHashes H A bs sb n).flatten) (b * 0x20) 0x20 = slice U (b * 0x20) 0x20 := by
  rw [slice_overlay_outside _ _ _ _ _ (by rw [blockHashes_flatten_length H A bs sb n hH]; omega) (Or.inl hin)]

/-- the blocks a `write_data(idx, offset, data)` touches, on its own level and (through the hash updates) on the levels above -/
def touchedAt : (idx : Nat) → (offset len : Nat) → (lvl b : Nat) → Prop
  | 0, off, len, lvl, b => lvl = 0 ∧ touched off len (bsOf 0) b
  | up + 1, off, len, lvl, b =>
    (lvl = up + 1 ∧ touched off len (bsOf (up + 1)) b) ∨
    touchedAt up (off / bsOf (up + 1) * 0x20)
      ((max ((off + len + bsOf (up + 1) - 1) / bsOf (up + 1) - 1) (off / bsOf (up + 1)) + 1 - off / bsOf (up + 1)) * 0x20) lvl b

theorem touchedAt_level : ∀ (idx off len lvl b : Nat), touchedAt bsOf idx off len lvl b → lvl ≤ idx
  | 0, _, _, _, _, h => Nat.le_of_eq h.1
  | up + 1, _, _, _, _, h => h.elim (fun h => Nat.le_of_eq h.1) fun h => Nat.le_succ_of_le (touchedAt_level up _ _ _ _ h)

theorem touchedAt_top (idx off len b : Nat) : touchedAt bsOf idx off len idx b ↔ touched off len (bsOf idx) b := by
  cases idx with
  | zero => exact ⟨fun h => h.2, fun h => ⟨rfl, h⟩⟩
  | succ up =>
    refine ⟨fun h => h.elim (fun h => h.2) fun h => ?_, fun h => Or.inl ⟨rfl, h⟩⟩
    have := touchedAt_level bsOf _ _ _ _ _ h; omega

theorem touchedAt_succ (up off len lvl b : Nat) {sb eb : Nat} (hr : blockRange off len (bsOf (up + 1)) = (sb, eb)) :
    touchedAt bsOf (up + 1) off len lvl b ↔
      (lvl = up + 1 ∧ touched off len (bsOf (up + 1)) b) ∨ touchedAt bsOf up (sb * 0x20) ((eb + 1 - sb) * 0x20) lvl b := by
  rw [touchedAt, (blockRange_eq hr).1, (blockRange_eq hr).2]

theorem absWrite_zero (offset : Nat) (data : Bytes) (L : Nat → Bytes) (master : List Bytes) (L' : Nat → Bytes) (master' : List Bytes)
    (hin : offset + data.length ≤ (L 0).length) (h : absWrite H bsOf 0 offset data (L, master) = .ok (L', master')) :
    L' = (fun j => if j = 0 then overlay (L 0) offset data else L j) ∧ master'.length = master.length ∧
      (∀ b, touched offset data.length (bsOf 0) b → master'[b]? = some (H (padBlock bsOf L' 0 b))) ∧
      (∀ b, ¬ touched offset data.length (bsOf 0) b → master'[b]? = master[b]?) := by
  obtain ⟨sb, eb, hr⟩ : ∃ sb eb, blockRange offset data.length (bsOf 0) = (sb, eb) := ⟨_, _, rfl⟩
  obtain ⟨hsb, heb⟩ := blockRange_eq hr
  have hT := fun b => touched_iff offset data.length (bsOf 0) b hr
  rw [absWrite, absLevelWrite_in _ _ _ hin, blockHashes_length, hsb, heb] at h
  split at h
  · cases h
  · obtain ⟨rfl, rfl⟩ := Prod.mk.inj (Except.ok.inj h)
    have hm := fun b => setMaster_getElem? master sb (blockHashes H (overlay (L 0) offset data) (bsOf 0) sb (eb + 1 - sb)) b
      (by rw [blockHashes_length]; omega)
    refine ⟨rfl, setMaster_length _ _ _, fun b ht => ?_, fun b ht => ?_⟩
    · rw [hT] at ht
      rw [hm, blockHashes_length, if_pos ht, blockHashes_getElem? _ _ _ _ _ _ (by omega), Nat.add_sub_cancel' ht.1]
      rfl
    · rw [hT] at ht
      rw [hm, blockHashes_length, if_neg ht]

/-- what one level of `write_data` above level 0 hands to the level above: the level gets the data (`L1`), and the write goes on at
    level `up` with the hashes of the touched blocks (`data1` at `off1`).  What that second write does to the hash slots (`written`,
    `kept`, over any contents `U`) and which blocks it touches (`parent`, `touchedAt`) is said in terms of `touched` alone -/
structure AbsStep (up offset : Nat) (data : Bytes) (L : Nat → Bytes) (off1 : Nat) (data1 : Bytes) (L1 : Nat → Bytes) : Prop where
  levels : L1 = fun j => if j = up + 1 then overlay (L (up + 1)) offset data else L j
  nonempty : 0 < data1.length
  fits : off1 + data1.length ≤ (L up).length
  written : ∀ U b, touched offset data.length (bsOf (up + 1)) b → slice (overlay U off1 data1) (b * 0x20) 0x20 =
    H (ljustZero (slice (overlay (L (up + 1)) offset data) (b * bsOf (up + 1)) (bsOf (up + 1))) (bsOf (up + 1)))
  kept : ∀ U b, ¬ touched offset data.length (bsOf (up + 1)) b → off1 ≤ U.length →
    slice (overlay U off1 data1) (b * 0x20) 0x20 = slice U (b * 0x20) 0x20
  parent : ∀ b, touched offset data.length (bsOf (up + 1)) b → touched off1 data1.length (bsOf up) (b * 0x20 / bsOf up)
  touchedAt : ∀ lvl b, touchedAt bsOf (up + 1) offset data.length lvl b ↔
    (lvl = up + 1 ∧ touched offset data.length (bsOf (up + 1)) b) ∨ touchedAt bsOf up off1 data1.length lvl b
  below : ∀ j, j ≤ up → L1 j = L j
  room : ∀ i, i < up → nblocks (L1 (i + 1)).length (bsOf (i + 1)) * 0x20 ≤ (L1 i).length

theorem absWrite_succ (hbs : ∀ i, 0 < bsOf i) (hH : ∀ x, (H x).length = 0x20) (up offset : Nat) (data : Bytes)
    (L : Nat → Bytes) (master : List Bytes) (hlen : 0 < data.length) (hin : offset + data.length ≤ (L (up + 1)).length)
    (hgeo : ∀ i, i < up + 1 → nblocks (L (i + 1)).length (bsOf (i + 1)) * 0x20 ≤ (L i).length) :
    ∃ (off1 : Nat) (data1 : Bytes) (L1 : Nat → Bytes),
      absWrite H bsOf (up + 1) offset data (L, master) = absWrite H bsOf up off1 data1 (L1, master) ∧
      AbsStep H bsOf up offset data L off1 data1 L1 := by
  obtain ⟨sb, eb, hr⟩ : ∃ sb eb, blockRange offset data.length (bsOf (up + 1)) = (sb, eb) := ⟨_, _, rfl⟩
  obtain ⟨hsb, heb⟩ := blockRange_eq hr
  have hT := fun b => touched_iff offset data.length (bsOf (up + 1)) b hr
  have hle := (blockRange_spec offset data.length (bsOf (up + 1)) (hbs _) hlen hr).1
  obtain ⟨hs, hhs⟩ : ∃ hs, blockHashes H (overlay (L (up + 1)) offset data) (bsOf (up + 1)) sb (eb + 1 - sb) = hs := ⟨_, rfl⟩
  have hHF : hs.flatten.length = (eb + 1 - sb) * 0x20 := by rw [← hhs]; exact blockHashes_flatten_length H _ _ _ _ hH
  refine ⟨sb * 0x20, hs.flatten, _, by rw [absWrite, absLevelWrite_in _ _ _ hin, hsb, heb, hhs], ?_⟩
  exact
    { levels := rfl
      nonempty := by rw [hHF]; omega
      fits := by
        rw [hHF]
        exact blockRange_hashes_fit _ _ _ offset data.length (hbs _) hlen hin (hgeo up (Nat.lt_succ_self _)) hr
      written := fun U b ht => by
        rw [hT] at ht
        rw [← hhs]; exact hashSlot_written H _ U _ sb _ b hH ht.1 ht.2
      kept := fun U b ht hU => by
        rw [hT] at ht
        rw [← hhs]; exact hashSlot_kept H _ U _ sb _ b hH (by omega) hU
      parent := fun b ht => by
        rw [hT] at ht
        rw [hHF]; exact touched_of_mem _ _ _ _ (hbs up) (Nat.mul_le_mul_right _ ht.1) (by omega)
      touchedAt := fun lvl b => by rw [touchedAt_succ bsOf up offset data.length lvl b hr, hHF]
      below := fun j hj => if_neg (by omega)
      room := fun i hi => by
        rw [if_neg (by omega), if_neg (by omega)]; exact hgeo i (by omega) }

/-- what `write_data(idx, offset, data)` leaves, for a write that fits (`below`: the levels `j > idx`) -/
structure AbsWrote (idx offset : Nat) (data : Bytes) (L : Nat → Bytes) (master : List Bytes) (L' : Nat → Bytes) (master' : List Bytes) :
    Prop where
  below : ∀ j, idx < j → L' j = L j
  level : L' idx = overlay (L idx) offset data
  lengths : ∀ j, (L' j).length = (L j).length
  mlen : master'.length = master.length
  touched : ∀ b, b * bsOf idx < (L idx).length → touched offset data.length (bsOf idx) b → chainOK H bsOf master' L' idx b
  kept : ∀ lvl, lvl ≤ idx → ∀ b, b * bsOf lvl < (L lvl).length → chainOK H bsOf master L lvl b → chainOK H bsOf master' L' lvl b

/-- **hash path**, general form.  Induction down the level index: level 0 sets master hashes (`absWrite_zero`); level `up + 1` is
    the level write followed by a write of the new hashes at level `up` (`absWrite_succ`), to which the induction hypothesis
    applies -/
theorem absWrite_spec (hbs : ∀ i, 0 < bsOf i) (hH : ∀ x, (H x).length = 0x20) (hnz : ¬ ZeroHash H) :
    ∀ (idx offset : Nat) (data : Bytes) (L : Nat → Bytes) (master : List Bytes) (L' : Nat → Bytes) (master' : List Bytes),
      0 < data.length → offset + data.length ≤ (L idx).length →
      (∀ i, i < idx → nblocks (L (i + 1)).length (bsOf (i + 1)) * 0x20 ≤ (L i).length) →
      absWrite H bsOf idx offset data (L, master) = .ok (L', master') → AbsWrote H bsOf idx offset data L master L' master' := by
  intro idx
  induction idx with
  | zero =>
    intro offset data L master L' master' hlen hin _ h
    obtain ⟨hL', hml, hmt, hmu⟩ := absWrite_zero H bsOf offset data L master L' master' hin h
    have hL0 : L' 0 = overlay (L 0) offset data := by rw [hL']; exact if_pos rfl
    have htouched : ∀ b, touched offset data.length (bsOf 0) b → chainOK H bsOf master' L' 0 b :=
      fun b ht => (chainOK_zero ..).2 (hmt b ht)
    refine { below := fun j hj => by rw [hL']; exact if_neg (by omega), level := hL0, lengths := ?_, mlen := hml,
             touched := fun b _ => htouched b, kept := ?_ }
    · intro j; rw [hL']; simp only; split
      · subst j; exact overlay_length_inside _ _ _ hin
      · rfl
    · intro lvl hl b _ hc
      obtain rfl : lvl = 0 := by omega
      by_cases ht : touched offset data.length (bsOf 0) b
      · exact htouched b ht
      · rw [chainOK_zero] at hc ⊢
        rw [padBlock_untouched bsOf L L' 0 offset data b (hbs 0) hlen hL0 hin ht, hmu b ht, hc]
  | succ up ih =>
    intro offset data L master L' master' hlen hin hgeo h
    obtain ⟨off1, data1, L1, hstep, S⟩ := absWrite_succ H bsOf hbs hH up offset data L master hlen hin hgeo
    have hL1 := S.below
    rw [hstep] at h
    have I := ih off1 data1 L1 master L' master' S.nonempty (by rw [hL1 up (Nat.le_refl _)]; exact S.fits) S.room h
    have i2 := I.level
    rw [hL1 up (Nat.le_refl _)] at i2
    -- `L1` stays a variable (spelt out, the unifier would unfold it at every level); `S.levels` says what it is where that matters
    have hL1top : ∀ j, up < j → L1 j = if j = up + 1 then overlay (L (up + 1)) offset data else L j := fun j _ => by rw [S.levels]
    have hLtop : L' (up + 1) = overlay (L (up + 1)) offset data :=
      (I.below (up + 1) (by omega)).trans ((hL1top _ (by omega)).trans (if_pos rfl))
    have hpv : ∀ b, b * bsOf (up + 1) < (L (up + 1)).length → b * 0x20 / bsOf up * bsOf up < (L up).length := fun b hb => by
      have := (lt_nblocks_iff _ _ _ (hbs (up + 1))).2 hb
      have := Nat.div_mul_le_self (b * 0x20) (bsOf up)
      have := hgeo up (by omega)
      omega
    have htouched : ∀ b, b * bsOf (up + 1) < (L (up + 1)).length → touched offset data.length (bsOf (up + 1)) b →
        chainOK H bsOf master' L' (up + 1) b := by
      intro b hb ht
      -- the block above was touched by the second write, and its slot holds the new hash, which is not all zero
      have hslot : slice (L' up) (b * 0x20) 0x20 = H (padBlock bsOf L' (up + 1) b) := by
        rw [i2, padBlock, hLtop]; exact S.written (L up) b ht
      exact (chainOK_succ ..).2 ⟨I.touched _ (by rw [hL1 up (Nat.le_refl _)]; exact hpv b hb) (S.parent b ht), hslot,
        fun hc => hnz ⟨_, hslot ▸ hc⟩⟩
    refine { below := fun j hj => (I.below j (by omega)).trans ((hL1top j (by omega)).trans (if_neg (by omega))), level := hLtop,
             lengths := ?_, mlen := I.mlen, touched := htouched, kept := ?_ }
    · intro j; rw [I.lengths j, S.levels]; simp only; split
      · subst j; exact overlay_length_inside _ _ _ hin
      · rfl
    · intro lvl hl b hb hc
      by_cases htop : lvl = up + 1
      · subst htop
        by_cases ht : touched offset data.length (bsOf (up + 1)) b
        · exact htouched b hb ht
        · -- an untouched block with an intact chain: block, hash slot and (by induction) the chain of the block above stay
          obtain ⟨hu, hs, hz⟩ := (chainOK_succ ..).1 hc
          have hk : slice (L' up) (b * 0x20) 0x20 = slice (L up) (b * 0x20) 0x20 := by
            rw [i2]; exact S.kept (L up) b ht (by have := S.fits; omega)
          refine (chainOK_succ ..).2 ⟨I.kept up (Nat.le_refl _) _ (by rw [hL1 up (Nat.le_refl _)]; exact hpv b hb)
            ((chainOK_congr H bsOf master L _ up _ hL1).2 hu), ?_, hk ▸ hz⟩
          rw [hk, hs, padBlock_untouched bsOf L L' (up + 1) offset data b (hbs _) hlen hLtop hin ht]
      · have hlu : lvl ≤ up := by omega
        exact I.kept lvl hlu b (by rw [hL1 lvl hlu]; exact hb)
          ((chainOK_congr H bsOf master L _ lvl b (fun j hj => hL1 j (by omega))).2 hc)

theorem absWrite_chain (hbs : ∀ i, 0 < bsOf i) (hH : ∀ x, (H x).length = 0x20) (hnz : ¬ ZeroHash H) :
    ∀ (idx offset : Nat) (data : Bytes) (L : Nat → Bytes) (master : List Bytes) (L' : Nat → Bytes) (master' : List Bytes),
      0 < data.length → offset + data.length ≤ (L idx).length →
      (∀ i, i < idx → nblocks (L (i + 1)).length (bsOf (i + 1)) * 0x20 ≤ (L i).length) →
      absWrite H bsOf idx offset data (L, master) = .ok (L', master') →
      (∀ j, idx < j → L' j = L j) ∧ L' idx = overlay (L idx) offset data ∧ (∀ j, (L' j).length = (L j).length) ∧
        master'.length = master.length ∧
        ∀ b, b * bsOf idx < (L idx).length → (touched offset data.length (bsOf idx) b ∨ chainOK H bsOf master L idx b) →
          chainOK H bsOf master' L' idx b := by
  intro idx offset data L master L' master' hlen hin hgeo h
  have W := absWrite_spec H bsOf hbs hH hnz idx offset data L master L' master' hlen hin hgeo h
  exact ⟨W.below, W.level, W.lengths, W.mlen, fun b hb ht => ht.elim (W.touched b hb) (W.kept idx (Nat.le_refl _) b hb)⟩

/-- **verdicts of untouched blocks do not change** when the hash levels above the written level verify completely -/
theorem absWrite_stable (hbs : ∀ i, 0 < bsOf i) (hH : ∀ x, (H x).length = 0x20) (hnz : ¬ ZeroHash H) :
    ∀ (idx offset : Nat) (data : Bytes) (L : Nat → Bytes) (master : List Bytes) (L' : Nat → Bytes) (master' : List Bytes),
      0 < data.length → offset + data.length ≤ (L idx).length →
      (∀ i, i < idx → nblocks (L (i + 1)).length (bsOf (i + 1)) * 0x20 ≤ (L i).length) →
      (∀ lvl, lvl < idx → ∀ b, b * bsOf lvl < (L lvl).length → chainOK H bsOf master L lvl b) →
      absWrite H bsOf idx offset data (L, master) = .ok (L', master') →
      ∀ (lvl : Nat) (deep : Bool) (b : Nat), lvl ≤ idx → ¬ touchedAt bsOf idx offset data.length lvl b →
        specValid H (rdOf L') bsOf master' deep lvl b = specValid H (rdOf L) bsOf master deep lvl b := by
  intro idx
  induction idx with
  | zero =>
    intro offset data L master L' master' hlen hin hgeo hval h lvl deep b hl hu
    obtain rfl : lvl = 0 := by omega
    have hu' : ¬ touched offset data.length (bsOf 0) b := fun hc => hu ⟨rfl, hc⟩
    obtain ⟨hL', -, -, hmu⟩ := absWrite_zero H bsOf offset data L master L' master' hin h
    have hL0 : L' 0 = overlay (L 0) offset data := by rw [hL']; exact if_pos rfl
    simp only [specValid, rdOf]
    rw [hL0, block_untouched _ _ _ _ _ (hbs 0) hlen hin hu', hmu b hu']
  | succ up ih =>
    intro offset data L master L' master' hlen hin hgeo hval h lvl deep b hl hu
    have c2 := (absWrite_spec H bsOf hbs hH hnz (up + 1) offset data L master L' master' hlen hin hgeo h).level
    obtain ⟨off1, data1, L1, hstep, S⟩ := absWrite_succ H bsOf hbs hH up offset data L master hlen hin hgeo
    have hlen1 := S.nonempty; have hin1 := S.fits; have hL1lo := S.below; have hgeo1 := S.room
    rw [hstep] at h
    rw [S.touchedAt] at hu
    have hL1up : L1 up = L up := hL1lo up (Nat.le_refl _)
    have hin1' : off1 + data1.length ≤ (L1 up).length := by rw [hL1up]; exact hin1
    have hval1 : ∀ lvl, lvl < up → ∀ b, b * bsOf lvl < (L1 lvl).length → chainOK H bsOf master L1 lvl b := by
      intro l hl' b' hb'
      rw [hL1lo l (by omega)] at hb'
      exact (chainOK_congr H bsOf master L L1 l b' (fun j hj => hL1lo j (by omega))).2 (hval l (by omega) b' hb')
    have W1 := absWrite_spec H bsOf hbs hH hnz up off1 data1 L1 master L' master' hlen1 hin1' hgeo1 h
    have IH := ih off1 data1 L1 master L' master' hlen1 hin1' hgeo1 hval1 h
    by_cases hlv : lvl = up + 1
    · subst hlv
      have hu1 : ¬ touched offset data.length (bsOf (up + 1)) b := fun hc => hu (Or.inl ⟨rfl, hc⟩)
      rw [specValid, specValid]
      simp only [rdOf]
      rw [c2, block_untouched _ _ _ _ _ (hbs _) hlen hin hu1, W1.level, hL1up, S.kept (L up) b hu1 (by omega)]
      -- the block above: touched (then it verified before and verifies now) or not (induction)
      have hup : specValid H (rdOf L') bsOf master' true up (b * 0x20 / bsOf up) =
          specValid H (rdOf L) bsOf master true up (b * 0x20 / bsOf up) := by
        by_cases htu : touchedAt bsOf up off1 data1.length up (b * 0x20 / bsOf up)
        · have htt := (touchedAt_top bsOf up _ _ _).mp htu
          have hjr : b * 0x20 / bsOf up * bsOf up < (L up).length :=
            Nat.lt_of_lt_of_le ((touched_iff_meets _ _ _ _ (hbs up) hlen1).1 htt).1 hin1
          have hnew := W1.touched (b * 0x20 / bsOf up) (by rw [hL1up]; exact hjr) htt
          have hold := hval up (by omega) _ hjr
          rw [hnew, hold]
        · rw [IH up true _ (Nat.le_refl _) htu]
          exact specValid_congr H bsOf master L L1 true up _ (fun j hj => hL1lo j hj)
      rw [hup]
    · rw [IH lvl deep b (by omega) fun hc => hu (Or.inr hc)]
      exact specValid_congr H bsOf master L L1 deep lvl b (fun j hj => hL1lo j (by omega))

theorem verifiedView_all_ok (master : List Bytes) (L : Nat → Bytes) (hbs : 0 < bsOf 3)
    (h : ∀ b, b * bsOf 3 < (L 3).length → chainOK H bsOf master L 3 b) : verifiedView H L bsOf master = L 3 := by
  unfold verifiedView
  have hmap : (List.range (nblocks (L 3).length (bsOf 3))).flatMap (verifiedBlock H L bsOf master) =
      ((List.range (nblocks (L 3).length (bsOf 3))).map fun i => slice (L 3) ((0 + i) * bsOf 3) (bsOf 3)).flatten := by
    rw [List.flatMap_def]
    congr 1
    apply List.map_congr_left
    intro b hb
    rw [List.mem_range] at hb
    rw [verifiedBlock_of_chainOK H bsOf master L b (h b ((lt_nblocks_iff _ _ _ hbs).1 hb)), Nat.zero_add]
  rw [hmap, flatten_slices, Nat.zero_mul]
  exact slice_all _ _ (le_nblocks_mul _ _ hbs)

/-- the tree still verifies fully (`AbsWrote.kept`), so both views are level 4 itself -/
theorem absWrite_view (hbs : ∀ i, 0 < bsOf i) (hH : ∀ x, (H x).length = 0x20) (hnz : ¬ ZeroHash H)
    (offset : Nat) (data : Bytes) (L : Nat → Bytes) (master : List Bytes) (L' : Nat → Bytes) (master' : List Bytes)
    (hlen : 0 < data.length) (hin : offset + data.length ≤ (L 3).length)
    (hgeo : ∀ i, i < 3 → nblocks (L (i + 1)).length (bsOf (i + 1)) * 0x20 ≤ (L i).length)
    (hall : ∀ b, b * bsOf 3 < (L 3).length → chainOK H bsOf master L 3 b)
    (h : absWrite H bsOf 3 offset data (L, master) = .ok (L', master')) :
    (∀ b, b * bsOf 3 < (L' 3).length → chainOK H bsOf master' L' 3 b) ∧
      verifiedView H L' bsOf master' = overlay (verifiedView H L bsOf master) offset data := by
  have W := absWrite_spec H bsOf hbs hH hnz 3 offset data L master L' master' hlen hin hgeo h
  have hall' : ∀ b, b * bsOf 3 < (L' 3).length → chainOK H bsOf master' L' 3 b := by
    intro b hb
    rw [W.lengths 3] at hb
    exact W.kept 3 (Nat.le_refl _) b hb (hall b hb)
  refine ⟨hall', ?_⟩
  rw [verifiedView_all_ok H bsOf master' L' (hbs 3) hall', verifiedView_all_ok H bsOf master L (hbs 3) hall, W.level]

end Save
end Pyctr
