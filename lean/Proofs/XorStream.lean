/-
  What `CTRFileIO` and `TWLCTRFileIO` share: the stream-cipher transform `xorWith` (the NCCH section views use it too), a file seen
  through it (`xorFile`), and what a read and a write of the inner file amount to in that view.  The wrappers differ in the
  keystream and in how their cipher objects produce it.
-/
import PyctrModel.Crypto.Wrappers
import Proofs.AFileLemmas
namespace Pyctr

def xorWith (ks : Nat → UInt8) (p : Nat) (data : Bytes) : Bytes :=
  data.mapIdx fun i b => b ^^^ ks (p + i)

variable (E : Bytes → Bytes) (ks : Nat → UInt8)

@[simp] theorem xorWith_length (p : Nat) (d : Bytes) : (xorWith ks p d).length = d.length := by
  simp [xorWith]

theorem xorWith_getElem? (p : Nat) (d : Bytes) (i : Nat) :
    (xorWith ks p d)[i]? = d[i]?.map (· ^^^ ks (p + i)) := by
  simp [xorWith, List.getElem?_mapIdx]

theorem xorWith_congr {ks ks' : Nat → UInt8} {p p' : Nat} (h : ∀ i, ks (p + i) = ks' (p' + i)) (d : Bytes) :
    xorWith ks p d = xorWith ks' p' d := by
  unfold xorWith
  congr 1
  funext i b
  rw [h]

theorem plain3ds_eq (ctr : Nat) (ct : Bytes) : plain3ds E ctr ct = xorWith (ksByte E ctr) 0 ct := by
  simp [plain3ds, xorWith]

theorem block_shift {c0 used ctr pos : Nat} (h : 16 * c0 + used = 16 * ctr + pos) (i : Nat) :
    c0 + (used + i) / 16 = ctr + (pos + i) / 16 ∧ (used + i) % 16 = (pos + i) % 16 := by
  have e : used + i + 16 * c0 = pos + i + 16 * ctr := by omega
  constructor
  · rw [Nat.add_comm c0, Nat.add_comm ctr, ← Nat.add_mul_div_left _ _ (by decide : 0 < 16),
      ← Nat.add_mul_div_left _ _ (by decide : 0 < 16), e]
  · rw [← Nat.add_mul_mod_self_left (used + i) 16 c0, e, Nat.add_mul_mod_self_left]

/-- a cipher started at the block of `pos` and advanced to the byte of `pos` in it stands at `pos` -/
theorem block_pos (ctr pos : Nat) : 16 * (ctr + pos / 16) + pos % 16 = 16 * ctr + pos := by
  rw [Nat.mul_add, Nat.add_assoc, Nat.div_add_mod]

theorem ksByte_shift {c0 used ctr pos : Nat} (h : 16 * c0 + used = 16 * ctr + pos) (i : Nat) :
    ksByte E c0 (used + i) = ksByte E ctr (pos + i) := by
  unfold ksByte
  rw [(block_shift h i).1, (block_shift h i).2]

theorem slice_xorWith (p k : Nat) (ct : Bytes) :
    slice (xorWith ks 0 ct) p k = xorWith ks p (slice ct p k) := by
  apply List.ext_getElem?; intro i
  simp only [slice_getElem?, xorWith_getElem?]
  by_cases h : i < k <;> simp [h]

theorem xorWith_involutive (p : Nat) (d : Bytes) : xorWith ks p (xorWith ks p d) = d := by
  apply List.ext_getElem?; intro i
  simp only [xorWith_getElem?]
  cases d[i]? with
  | none => rfl
  | some b => simp [UInt8.xor_assoc]

theorem xorWith_take (p n : Nat) (d : Bytes) : (xorWith ks p d).take n = xorWith ks p (d.take n) := by
  apply List.ext_getElem?; intro i
  simp only [List.getElem?_take, xorWith_getElem?]
  by_cases h : i < n <;> simp [h]

theorem xorWith_overlay (p : Nat) (c w : Bytes) (hp : p ≤ c.length) :
    xorWith ks 0 (overlay c p (xorWith ks p w)) = overlay (xorWith ks 0 c) p w := by
  apply List.ext_getElem?; intro i
  simp only [xorWith_getElem?, overlay_getElem?, xorWith_length, Nat.zero_add]
  by_cases h1 : i < p
  · simp only [h1, if_true, show i < c.length by omega]
  · simp only [h1, if_false]
    by_cases h2 : i < p + w.length
    · simp only [h2, if_true]
      have : p + (i - p) = i := by omega
      rw [this]
      cases w[i - p]? with
      | none => rfl
      | some b => simp [UInt8.xor_assoc]
    · simp only [h2, if_false]

def xorFile (ks : Nat → UInt8) (a : AFile) : AFile := { a with content := xorWith ks 0 a.content }

theorem xorFile_eq (a : AFile) : xorFile ks a = a.mapContent (xorWith ks 0) := rfl

theorem writeTake_xorWith (f : AFile) (w : Bytes) :
    f.writeTake (xorWith ks f.pos w) = xorWith ks f.pos (f.writeTake w) := by
  simp only [AFile.writeTake]; split
  · rw [xorWith_take]
  · rfl

/-- `hg`: the zero fill of a gap would not be encrypted -/
theorem xorFile_write (a : AFile) (w : Bytes) (hg : a.noGap) :
    (xorFile ks a).write w = ((a.write (xorWith ks a.pos w)).1, xorFile ks (a.write (xorWith ks a.pos w)).2) := by
  have hwt : (xorFile ks a).writeTake w = a.writeTake w := AFile.writeTake_mapContent (xorWith_length ks 0) a w
  by_cases hp : a.pos ≤ a.content.length
  · rw [AFile.write_of_le a _ hp, AFile.write_of_le (xorFile ks a) w (by rw [xorFile, xorWith_length]; exact hp),
      hwt, writeTake_xorWith, xorWith_length]
    simp only [xorFile, xorWith_overlay ks _ _ _ hp]
  · have hf := hg.resolve_right hp
    rw [AFile.write_past a _ hf (Nat.le_of_not_le hp), AFile.write_past (xorFile ks a) w hf
      (by rw [xorFile, xorWith_length]; exact Nat.le_of_not_le hp)]

variable {σ : Type} {F : FileOps σ} {inv : σ → Prop} {abs : σ → AFile}

theorem inner_read_xor (hF : IsReadable F inv abs) (r1 : σ) (n : Int) (vt : inv r1) :
    ∃ r2 d, F.read r1 n = .ok (d, r2) ∧ xorWith ks (abs r1).pos d = ((xorFile ks (abs r1)).read n).1 ∧
      xorFile ks (abs r2) = ((xorFile ks (abs r1)).read n).2 ∧ inv r2 ∧ (abs r2).pos = (abs r1).pos + d.length := by
  obtain ⟨r2, er, ar, vr⟩ := hF.read r1 n vt
  refine ⟨r2, _, er, ?_, ?_, vr, by rw [ar, AFile.read_fst_length]; rfl⟩
  · rw [xorFile_eq, AFile.read_mapContent (xorWith_length ks 0), slice_xorWith]; rfl
  · rw [ar, xorFile_eq, xorFile_eq, AFile.read_mapContent (xorWith_length ks 0)]

theorem inner_write_xor (hF : IsFileW F inv abs) (r1 : σ) (data : Bytes) (vt : inv r1) (hg : (abs r1).noGap) :
    ∃ r2, F.write r1 (xorWith ks (abs r1).pos data) = .ok (((xorFile ks (abs r1)).write data).1, r2) ∧
      xorFile ks (abs r2) = ((xorFile ks (abs r1)).write data).2 ∧ inv r2 ∧
      (abs r2).fixed = (abs r1).fixed ∧
      ((abs r1).fixed = true → (abs r2).content.length = (abs r1).content.length) ∧
      (abs r2).pos = (abs r1).pos + ((abs r1).writeTake data).length := by
  obtain ⟨r2, ew, aw, vw⟩ := hF.write r1 (xorWith ks (abs r1).pos data) vt hg
  rw [xorFile_write ks _ data hg]
  refine ⟨r2, ew, by rw [aw], vw, by rw [aw, AFile.write_snd_fixed], fun hf => ?_, ?_⟩
  · rw [aw, AFile.write_length_fixed _ _ hf]
  · rw [aw, AFile.write_snd_pos, writeTake_xorWith, xorWith_length]

end Pyctr
