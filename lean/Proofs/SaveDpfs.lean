/-
  The DPFS level-3 reader returns slices of the view that the bitmap tree selects (`dpfsView`, byte by byte `scatter`); the IVFC
  levels are windows of that view.
-/
import Proofs.SaveBlocks
namespace Pyctr
theorem mapM_ok {ε α β : Type} (f : α → Except ε β) (g : α → β) (l : List α) (h : ∀ a ∈ l, f a = .ok (g a)) :
    l.mapM f = .ok (l.map g) := by
  induction l with
  | nil => rfl
  | cons a l ih =>
    rw [List.mapM_cons, h a (by simp), ih (fun x hx => h x (by simp [hx]))]
    rfl

namespace Save

theorem activeBit_isSome (u : List Nat) (b : Nat) (h : b < 32 * u.length) : ∃ v, activeBit u b = some v := by
  unfold activeBit
  have : b / 32 < u.length := by omega
  rw [List.getElem?_eq_getElem this]
  exact ⟨_, rfl⟩

theorem dpBlock_ok (P : Bytes) (dp : Dp) (b : Nat) (h : b < 32 * dp.lv2bits.length) :
    dpBlock P dp b = .ok (dpRawBlock P dp b) := by
  obtain ⟨v, hv⟩ := activeBit_isSome dp.lv2bits b h
  unfold dpBlock dpRawBlock
  rw [hv, slice_slice_clamp]
  -- the model's `if act then size else 0` against the specification's `if … = some true then size else 0`
  cases v <;> rfl

theorem Level.bs_pos (l : Level) : 0 < l.bs := Nat.two_pow_pos _

theorem joinTrim_blocks (G : Nat → Bytes) (bs nb off n : Nat) (hbs : 0 < bs) (hn : 0 < n)
    (hfull : ∀ b, b + 1 < nb → (G b).length = bs) (hle : ∀ b, b < nb → (G b).length ≤ bs) {sb eb : Nat}
    (hr : blockRange off n bs = (sb, eb)) (heb : eb < nb) :
    joinTrim ((List.range (eb + 1 - sb)).map fun i => G (sb + i)) (off % bs) (lastSize sb eb (off % bs) n bs) =
      slice ((List.range nb).flatMap G) off n := by
  rw [List.map_congr_left (fun i hi => (slice_flatMap_range G bs nb hfull hle _ (by have := List.mem_range.1 hi; omega)).symm),
    joinTrim_slices _ _ _ _ hbs hn hr]

/-- the clamp that opens `DPFSLevel3FileIO.read(size)` and `IVFCLevel4Reader.read(size)` (`sz` is the model's clamped `size`),
    split as both readers split it -/
theorem readCount_spec (total seek : Nat) (size sz : Int)
    (hsz : (if size < 0 ∨ (seek : Int) + size > total then (total : Int) - seek else size) = sz) :
    (sz ≤ 0 ∧ readCount total seek size = 0) ∨
    (¬ sz ≤ 0 ∧ sz.toNat = readCount total seek size ∧ 0 < readCount total seek size ∧ seek + readCount total seek size ≤ total) := by
  subst hsz
  unfold readCount; split <;> omega

theorem chunkOf_cases (dp : Dp) (b : Nat) : chunkOf dp b = 0 ∨ chunkOf dp b = dp.lv3.size := by
  unfold chunkOf; split
  · exact .inr rfl
  · exact .inl rfl

theorem chunkOf_le_size (dp : Dp) (b : Nat) : chunkOf dp b ≤ dp.lv3.size := by
  unfold chunkOf; split <;> omega

theorem dpRawBlock_eq (P : Bytes) (dp : Dp) (b : Nat) :
    dpRawBlock P dp b = slice P (dp.lv3.offset + (chunkOf dp b + b * dp.lv3.bs))
      (min dp.lv3.bs (dp.lv3.size * 2 - (chunkOf dp b + b * dp.lv3.bs))) := by
  unfold dpRawBlock chunkOf
  rw [slice_slice_clamp]

theorem dpRawBlock_length_le (P : Bytes) (dp : Dp) (b : Nat) : (dpRawBlock P dp b).length ≤ dp.lv3.bs := by
  rw [dpRawBlock_eq, slice_length]; omega

theorem dpRawBlock_length (P : Bytes) (dp : Dp) (hwf : DpWF P dp) (b : Nat) (hb : b + 1 < nblocks dp.lv3.size dp.lv3.bs) :
    (dpRawBlock P dp b).length = dp.lv3.bs := by
  have := block_full _ _ _ dp.lv3.bs_pos hb
  have := hwf.inside
  have := chunkOf_le_size dp b
  rw [dpRawBlock_eq, slice_length]
  omega

theorem dpGetData_view (P : Bytes) (dp : Dp) (hwf : DpWF P dp) (off n : Nat) (hn : 0 < n) (h : off + n ≤ dp.lv3.size) :
    dpGetData P dp off n = .ok (slice (dpfsView P dp) off n) := by
  have hbs := dp.lv3.bs_pos
  obtain ⟨sb, eb, hr⟩ : ∃ sb eb, blockRange off n dp.lv3.bs = (sb, eb) := ⟨_, _, rfl⟩
  have heb := block_lt_nblocks dp.lv3.size dp.lv3.bs off n hbs hn h hr
  unfold dpGetData
  rw [if_neg (by omega)]
  simp only [hr]
  rw [mapM_ok _ (fun i => dpRawBlock P dp (sb + i)) _
    (fun i hi => dpBlock_ok P dp _ (Nat.lt_of_lt_of_le (by have := List.mem_range.1 hi; omega) hwf.bits))]
  simp only
  rw [joinTrim_blocks _ _ _ _ _ hbs hn (dpRawBlock_length P dp hwf) (fun b _ => dpRawBlock_length_le P dp b) hr heb,
    dpfsView, slice_take_of_le _ _ _ _ h]

/-- where byte `x` of the DPFS level-3 view is stored in the partition: in the copy its block's level-2 bit selects -/
def scatter (dp : Dp) (x : Nat) : Nat := dp.lv3.offset + chunkOf dp (x / dp.lv3.bs) + x

theorem dpfsView_scatter (P : Bytes) (dp : Dp) (hwf : DpWF P dp) (x : Nat) (hx : x < dp.lv3.size) :
    (dpfsView P dp)[x]? = P[scatter dp x]? := by
  have hbs := dp.lv3.bs_pos
  unfold dpfsView scatter
  rw [List.getElem?_take, if_pos hx]
  have hq : x / dp.lv3.bs < nblocks dp.lv3.size dp.lv3.bs :=
    (lt_nblocks_iff _ _ _ hbs).2 (Nat.lt_of_le_of_lt (Nat.div_mul_le_self x dp.lv3.bs) hx)
  have hb := (slice_flatMap_range _ _ _ (dpRawBlock_length P dp hwf) (fun b _ => dpRawBlock_length_le P dp b) _ hq).symm
  have hdm := Nat.div_add_mod x dp.lv3.bs
  have hr := Nat.mod_lt x hbs
  have h1 : ((List.range (nblocks dp.lv3.size dp.lv3.bs)).flatMap (dpRawBlock P dp))[x]? =
      (dpRawBlock P dp (x / dp.lv3.bs))[x % dp.lv3.bs]? := by
    rw [hb, slice_getElem?, if_pos hr]
    congr 1; rw [Nat.mul_comm]; exact hdm.symm
  have hc := chunkOf_le_size dp (x / dp.lv3.bs)
  rw [Nat.mul_comm] at hdm
  rw [h1, dpRawBlock_eq, slice_getElem?, if_pos (by omega)]
  congr 1; omega

theorem dpfsView_getElem (P : Bytes) (dp : Dp) (hwf : DpWF P dp) (x : Nat) (hx : x < dp.lv3.size) :
    (dpfsView P dp)[x]? = P[dp.lv3.offset + chunkOf dp (x / dp.lv3.bs) + x]? :=
  dpfsView_scatter P dp hwf x hx

theorem scatter_inj (dp : Dp) (x x' : Nat) (hx : x < dp.lv3.size) (hx' : x' < dp.lv3.size) (h : scatter dp x = scatter dp x') : x = x' := by
  -- each of the two copy offsets is 0 or `size`, and `x`, `x'` differ by less than `size`
  have h1 := chunkOf_cases dp (x / dp.lv3.bs)
  have h2 := chunkOf_cases dp (x' / dp.lv3.bs)
  unfold scatter at h
  omega

theorem scatter_block (dp : Dp) (b x : Nat) (h1 : b * dp.lv3.bs ≤ x) (h2 : x < (b + 1) * dp.lv3.bs) :
    scatter dp x = dp.lv3.offset + chunkOf dp b + x := by
  unfold scatter; rw [Nat.div_eq_of_lt_le h1 h2]

theorem scatter_range (dp : Dp) (x : Nat) (hx : x < dp.lv3.size) :
    dp.lv3.offset ≤ scatter dp x ∧ scatter dp x < dp.lv3.offset + dp.lv3.size * 2 := by
  have := chunkOf_le_size dp (x / dp.lv3.bs)
  unfold scatter
  omega

theorem dpfsView_length (P : Bytes) (dp : Dp) (hwf : DpWF P dp) : (dpfsView P dp).length = dp.lv3.size := by
  apply Nat.le_antisymm
  · unfold dpfsView; rw [List.length_take]; exact Nat.min_le_left _ _
  · -- every `x < size` has a byte in the view: the one read at `scatter x`, inside the partition
    apply Nat.le_of_not_lt
    intro hlt
    have hx := dpfsView_scatter P dp hwf _ hlt
    rw [List.getElem?_eq_none (Nat.le_refl _), eq_comm, List.getElem?_eq_none_iff] at hx
    have := (scatter_range dp _ hlt).2
    have := hwf.inside
    omega

theorem DpWF.of_length {P P' : Bytes} {dp : Dp} (hwf : DpWF P dp) (h : P'.length = P.length) : DpWF P' dp :=
  ⟨hwf.bits, by rw [h]; exact hwf.inside⟩

theorem dpfsView_congr (P P' : Bytes) (dp : Dp) (hwf : DpWF P dp) (hlen : P'.length = P.length)
    (h : ∀ y, dp.lv3.offset ≤ y → y < dp.lv3.offset + dp.lv3.size * 2 → P'[y]? = P[y]?) : dpfsView P' dp = dpfsView P dp := by
  have hwf' := hwf.of_length hlen
  apply List.ext_getElem?
  intro x
  by_cases hx : x < dp.lv3.size
  · rw [dpfsView_scatter _ _ hwf' x hx, dpfsView_scatter _ _ hwf x hx]
    exact h _ (scatter_range dp x hx).1 (scatter_range dp x hx).2
  · rw [List.getElem?_eq_none (by rw [dpfsView_length _ _ hwf']; omega), List.getElem?_eq_none (by rw [dpfsView_length _ _ hwf]; omega)]

theorem dpRead_eq (P : Bytes) (dp : Dp) (hwf : DpWF P dp) (seek : Nat) (size : Int) :
    dpRead P dp seek size = .ok (slice (dpfsView P dp) seek (readCount dp.lv3.size seek size)) := by
  unfold dpRead
  rcases readCount_spec dp.lv3.size seek size _ rfl with ⟨h0, hr⟩ | ⟨h0, ht, hp, hin⟩
  · rw [if_pos h0, hr, slice_zero_len]
  · rw [if_neg h0, ht]; exact dpGetData_view P dp hwf seek _ hp hin

theorem dpRead_view (P : Bytes) (dp : Dp) (hwf : DpWF P dp) (seek n : Nat) (h : seek + n ≤ dp.lv3.size) :
    dpRead P dp seek (n : Int) = .ok (slice (dpfsView P dp) seek n) := by
  rw [dpRead_eq P dp hwf, readCount, if_neg (by omega), Int.toNat_natCast]

/-- level `idx` is a window of the DPFS view -/
structure LevelInView (t : Tree) (idx : Nat) : Prop where
  noExt : (if 3 ≤ idx then t.external else none) = none
  inside : (t.level idx).offset + (t.level idx).size ≤ t.dp.lv3.size
  bytes : ∀ Q, levelBytes Q t idx = slice (dpfsView Q t.dp) (t.level idx).offset (t.level idx).size

/-- level `idx` (it is level 4 then) is the external window at `eo` of the partition `P` -/
structure LevelExternal (P : Bytes) (t : Tree) (idx eo : Nat) : Prop where
  ext : (if 3 ≤ idx then t.external else none) = some (eo, (t.level idx).size)
  inside : eo + (t.level idx).size ≤ P.length
  bytes : ∀ Q, levelBytes Q t idx = slice (slice Q eo (t.level idx).size) 0 (t.level idx).size

theorem LevelExternal.top {P : Bytes} {t : Tree} {idx eo : Nat} (h : LevelExternal P t idx eo) : 3 ≤ idx :=
  Decidable.by_contra fun h3 => by have := h.ext; rw [if_neg h3] at this; cases this

theorem LevelExternal.external {P : Bytes} {t : Tree} {idx eo : Nat} (h : LevelExternal P t idx eo) :
    t.external = some (eo, (t.level idx).size) := by
  have := h.ext; rwa [if_pos h.top] at this

theorem TreeWF.level_cases {P : Bytes} {t : Tree} (hwf : TreeWF P t) (idx : Nat) :
    LevelInView t idx ∨ ∃ eo, LevelExternal P t idx eo := by
  cases hx : (if 3 ≤ idx then t.external else none) with
  | none =>
    exact .inl ⟨hx, hwf.inside idx (fun h3 => by rw [if_pos h3] at hx; exact hx), fun Q => by unfold levelBytes levelFrom; rw [hx]⟩
  | some p =>
    obtain ⟨eo, es⟩ := p
    have h3 : 3 ≤ idx := Decidable.by_contra fun h3 => by rw [if_neg h3] at hx; cases hx
    have hx' := hx
    rw [if_pos h3] at hx'
    obtain ⟨rfl, hin⟩ := hwf.ext eo es hx'
    have hl : (t.level idx).size = t.ivfc.lv4.size := by
      unfold Tree.level; rw [if_neg (by omega), if_neg (by omega), if_neg (by omega)]
    exact .inr ⟨eo, by rw [hl]; exact hx, by rw [hl]; exact hin, fun Q => by unfold levelBytes levelFrom; rw [hx, hl]⟩

theorem levelBytes_length (P : Bytes) (t : Tree) (hwf : TreeWF P t) (idx : Nat) :
    (levelBytes P t idx).length = (t.level idx).size := by
  rcases hwf.level_cases idx with V | ⟨eo, E⟩
  · have := V.inside
    rw [V.bytes, slice_length, dpfsView_length P t.dp hwf.dp]; omega
  · have := E.inside
    rw [E.bytes, slice_length, slice_length]; omega

theorem levelRead_spec (P : Bytes) (t : Tree) (hwf : TreeWF P t) (idx off n : Nat) :
    levelRead P t idx off n = .ok (slice (levelBytes P t idx) off n) := by
  have hlen := levelBytes_length P t hwf idx
  unfold levelRead
  simp only
  split
  · rw [List.eq_nil_of_length_eq_zero (l := slice _ off n) (by rw [slice_length]; omega)]
  · rcases hwf.level_cases idx with V | ⟨eo, E⟩
    · have := V.inside
      rw [V.noExt, V.bytes]
      rw [dpRead_view P t.dp hwf.dp _ _ (by omega), slice_slice_clamp]
    · rw [E.ext, E.bytes]
      simp only
      rw [slice_slice_clamp, slice_slice_clamp, slice_slice_clamp, Nat.zero_add]

theorem levelRead_eq (P : Bytes) (t : Tree) (hwf : TreeWF P t) : levelRead P t = rdOf (levelBytes P t) := by
  funext idx off n
  exact levelRead_spec P t hwf idx off n
end Save
end Pyctr
