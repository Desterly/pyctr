/-
  C20: config savegame — the block store (`set_block` / `get_block`; the typed accessors rest on `setBlock_get`) and the image
  round trip `load (to_bytes blocks) = blocks`: `to_bytes` leaves the blocks `Stored` (`stored_written`), and `load` reads back
  whatever is `Stored` (`load_stored`).
-/
import PyctrModel.Fmt.Codecs
import Proofs.BytesLemmas
namespace Pyctr
namespace ConfigSave
open Smdh (U16s)

theorem find_put (blocks : List Block) (id fl j : Nat) (data : Bytes) :
    (put blocks id fl data).find? (·.id == j) = if j = id then some ⟨id, fl, data⟩ else blocks.find? (·.id == j) := by
  unfold put
  split
  · rename_i hany
    -- replacing keeps every id, so the same position is found
    have hid : ((·.id == j) ∘ fun b : Block => if b.id == id then ⟨id, fl, data⟩ else b) = (·.id == j) := by
      funext b; simp only [Function.comp]; split
      · rename_i hb; rw [eq_of_beq hb]
      · rfl
    rw [List.find?_map, hid]
    cases hf : blocks.find? (·.id == j) with
    | none =>
      rw [if_neg]; · rfl
      rintro rfl
      rw [List.find?_eq_none] at hf
      obtain ⟨x, hx, hxi⟩ := List.any_eq_true.mp hany
      exact hf x hx hxi
    | some b =>
      have hb : b.id = j := eq_of_beq (List.find?_some (p := fun x : Block => x.id == j) hf)
      by_cases hj : j = id
      · rw [if_pos hj, Option.map_some, if_pos (by rw [hb, hj]; exact beq_self_eq_true id)]
      · rw [if_neg hj, Option.map_some, if_neg (by rw [hb]; simpa using hj)]
  · rename_i hany
    rw [List.find?_append]
    by_cases hj : j = id
    · subst hj
      rw [if_pos rfl, List.find?_eq_none.mpr fun x hx hxi => hany (List.any_eq_true.mpr ⟨x, hx, hxi⟩)]
      simp
    · rw [if_neg hj, List.find?_cons_of_neg (by simpa using Ne.symm hj)]; simp

theorem setBlock_ok (blocks blocks' : List Block) (id : Nat) (data : Bytes) (flags : Option Nat)
    (h : setBlock blocks id data flags = .ok blocks') :
    ∃ efl, knownOf id = some (efl, data.length) ∧ blocks' = put blocks id (resolveFlags blocks id flags efl) data := by
  revert h
  fun_cases setBlock blocks id data flags with
  -- an unknown id, flags or a size other than the table's, flags outside the four allowed: errors
  | case1 | case2 | case3 | case4 => intro h; cases h
  | case5 efl esz hk _ hl =>
    intro h; cases h
    exact ⟨efl, by rw [hk, Classical.not_not.mp hl], rfl⟩

theorem put_get (blocks : List Block) (id fl : Nat) (data : Bytes) : getBlock (put blocks id fl data) id = .ok ⟨id, fl, data⟩ := by
  rw [getBlock, find_put, if_pos rfl]

theorem put_other (blocks : List Block) (id fl j : Nat) (data : Bytes) (hj : j ≠ id) :
    getBlock (put blocks id fl data) j = getBlock blocks j := by
  rw [getBlock, find_put, if_neg hj, getBlock]

theorem setBlock_get (blocks blocks' : List Block) (id : Nat) (data : Bytes) (flags : Option Nat)
    (h : setBlock blocks id data flags = .ok blocks') : ∃ fl, getBlock blocks' id = .ok ⟨id, fl, data⟩ := by
  obtain ⟨efl, -, hb⟩ := setBlock_ok _ _ _ _ _ h
  exact ⟨_, by rw [hb, put_get]⟩

theorem setBlock_other (blocks blocks' : List Block) (id j : Nat) (data : Bytes) (flags : Option Nat)
    (h : setBlock blocks id data flags = .ok blocks') (hj : j ≠ id) : getBlock blocks' j = getBlock blocks j := by
  obtain ⟨efl, -, hb⟩ := setBlock_ok _ _ _ _ _ h
  rw [hb, put_other _ _ _ _ _ hj]

theorem cutAtZero_append (u : U16s) (k : Nat) (h : ∀ x, x ∈ u → x ≠ 0) : cutAtZero (u ++ List.replicate k 0) = u := by
  induction u with
  | nil => cases k <;> simp [cutAtZero, List.replicate_succ]
  | cons x r ih =>
    simp only [List.cons_append, cutAtZero]
    rw [if_neg (h x (by simp))]
    rw [ih (fun y hy => h y (by simp [hy]))]

def outData (b : Block) : Bytes := if b.data.length > 4 then b.data else []

theorem outData_big {b : Block} (h : b.data.length > 4) : outData b = b.data := if_pos h

theorem outData_small {b : Block} (h : ¬ b.data.length > 4) : outData b = [] := if_neg h

/-- out-of-line data are packed downwards from the end of the file -/
def nextOff (off : Nat) (b : Block) : Nat := off - (outData b).length

/-- The state of the `to_bytes` loop after the blocks `bl`, started with the data offset at `off`, in closed form: the data
    offset (`offAfter`), the entry table (`entriesFrom`), the data area (`datasOf`). -/
def offAfter : Nat → List Block → Nat
  | off, [] => off
  | off, b :: r => offAfter (nextOff off b) r

def entryOf (b : Block) (off : Nat) : Bytes :=
  toLE 4 b.id ++ (if b.data.length > 4 then toLE 4 (off - b.data.length) else ljust b.data 4) ++ toLE 2 b.data.length ++
    toLE 2 b.flags

def entriesFrom : Nat → List Block → Bytes
  | _, [] => []
  | off, b :: r => entryOf b off ++ entriesFrom (nextOff off b) r

/-- in reverse block order: each block's data are put in front of the area, which grows downwards -/
def datasOf : List Block → Bytes
  | [] => []
  | b :: r => datasOf r ++ outData b

/-- the checks `to_bytes` makes on block `b` when the data offset stands at `off`; the entry table ends at `limit` -/
structure StepOK (limit off : Nat) (b : Block) : Prop where
  id_lt : b.id < 2 ^ 32
  size_lt : b.data.length < 2 ^ 16
  flags_lt : b.flags < 2 ^ 16
  fits : (outData b).length ≤ off
  above : b.data.length > 4 → limit ≤ nextOff off b

def StepsOK (limit : Nat) : Nat → List Block → Prop
  | _, [] => True
  | off, b :: r => StepOK limit off b ∧ StepsOK limit (nextOff off b) r

theorem foldl_toBytesStep_error (limit : Nat) (bl : List Block) (e : Err) : bl.foldl (toBytesStep limit) (.error e) = .error e := by
  induction bl with
  | nil => rfl
  | cons b r ih => simp only [List.foldl_cons, toBytesStep]; exact ih

theorem toBytesStep_eq (limit off : Nat) (e d : Bytes) (b : Block) :
    toBytesStep limit (.ok (off, e, d)) b =
      if b.id ≥ 2 ^ 32 ∨ b.data.length ≥ 2 ^ 16 ∨ b.flags ≥ 2 ^ 16 then .error (.other "OverflowError")
      else if b.data.length > 4 ∧ (off < b.data.length ∨ off - b.data.length < limit) then
        .error (.other "OutOfSpaceConfigSaveError")
      else .ok (nextOff off b, e ++ entryOf b off, outData b ++ d) := by
  simp only [toBytesStep, nextOff, entryOf, outData]
  split
  · rfl
  · by_cases hbig : b.data.length > 4
    · simp only [hbig, if_true, true_and]
    · simp only [hbig, if_false, false_and, List.length_nil, Nat.sub_zero, List.nil_append]

theorem foldl_toBytesStep_ok (limit : Nat) : ∀ (bl : List Block) (off : Nat) (e d : Bytes) (res : Nat × Bytes × Bytes),
    bl.foldl (toBytesStep limit) (.ok (off, e, d)) = .ok res →
    res = (offAfter off bl, e ++ entriesFrom off bl, datasOf bl ++ d) ∧ StepsOK limit off bl
  | [], off, e, d, res, h => by
    cases h
    exact ⟨by rw [offAfter, entriesFrom, datasOf, List.append_nil, List.nil_append], trivial⟩
  | b :: r, off, e, d, res, h => by
    rw [List.foldl_cons, toBytesStep_eq] at h
    split at h
    · rw [foldl_toBytesStep_error] at h; cases h
    · split at h
      · rw [foldl_toBytesStep_error] at h; cases h
      · rename_i h1 h2
        obtain ⟨rfl, hs⟩ := foldl_toBytesStep_ok limit r _ _ _ _ h
        simp only [ge_iff_le, not_or, Nat.not_le] at h1
        refine ⟨by simp only [offAfter, entriesFrom, datasOf, List.append_assoc], ⟨h1.1, h1.2.1, h1.2.2, ?_, ?_⟩, hs⟩
        · by_cases hbig : b.data.length > 4
          · rw [outData_big hbig]; omega
          · rw [outData_small hbig]; exact Nat.zero_le _
        · intro hbig; rw [nextOff, outData_big hbig]; omega

theorem entryOf_length (b : Block) (off : Nat) : (entryOf b off).length = 12 := by
  unfold entryOf
  split
  · simp
  · rw [List.length_append, List.length_append, List.length_append, ljust_length _ _ _ (by omega)]; simp

theorem entriesFrom_length : ∀ (bl : List Block) (off : Nat), (entriesFrom off bl).length = 12 * bl.length
  | [], _ => rfl
  | b :: r, off => by rw [entriesFrom, List.length_append, entryOf_length, entriesFrom_length r, List.length_cons]; omega

theorem offAfter_le : ∀ (bl : List Block) (off : Nat), offAfter off bl ≤ off
  | [], _ => Nat.le_refl _
  | _ :: r, _ => Nat.le_trans (offAfter_le r _) (Nat.sub_le _ _)

theorem off_plus_datas (limit : Nat) : ∀ (bl : List Block) (off : Nat), StepsOK limit off bl →
    offAfter off bl + (datasOf bl).length = off
  | [], _, _ => rfl
  | b :: r, off, ⟨hb, hr⟩ => by
    have ih := off_plus_datas limit r _ hr
    have := hb.fits
    rw [offAfter, datasOf, List.length_append]
    unfold nextOff at ih ⊢
    omega

theorem offAfter_ge (limit : Nat) : ∀ (bl : List Block) (off : Nat), StepsOK limit off bl → limit ≤ off → limit ≤ offAfter off bl
  | [], _, _, h => h
  | b :: r, off, ⟨hb, hr⟩, hl => by
    refine offAfter_ge limit r _ hr ?_
    by_cases hbig : b.data.length > 4
    · exact hb.above hbig
    · rwa [nextOff, outData_small hbig, List.length_nil, Nat.sub_zero]

theorem entry_fields (b : Block) (o : Nat) (h1 : b.id < 2 ^ 32) (h2 : b.data.length < 2 ^ 16) (h3 : b.flags < 2 ^ 16)
    (ho : o < 2 ^ 32) :
    readLE (slice (entryOf b o) 0 4) = b.id ∧ readLE (slice (entryOf b o) 8 2) = b.data.length ∧
      readLE (slice (entryOf b o) 0xA 2) = b.flags ∧
      (b.data.length > 4 → readLE (slice (entryOf b o) 4 4) = o - b.data.length) ∧
      (¬ b.data.length > 4 → slice (entryOf b o) 4 b.data.length = b.data) := by
  unfold entryOf
  generalize hf : (if b.data.length > 4 then toLE 4 (o - b.data.length) else ljust b.data 4) = f
  have hl : f.length = 4 := by
    rw [← hf]; split
    · exact toLE_length _ _
    · exact ljust_length _ _ _ (by omega)
  have L : Laid (toLE 4 b.id ++ f ++ toLE 2 b.data.length ++ toLE 2 b.flags) 0
      [toLE 4 b.id, f, toLE 2 b.data.length, toLE 2 b.flags] := .of_flatten (by simp)
  simp only [Laid, toLE_length, hl, Nat.zero_add, Nat.reduceAdd] at L
  obtain ⟨p1, p2, p3, p4, -⟩ := L
  rw [p1, p3, p4]
  refine ⟨readLE_toLE 4 _ h1, readLE_toLE 2 _ h2, readLE_toLE 2 _ h3, fun hbig => ?_, fun hs => ?_⟩
  · rw [p2, ← hf, if_pos hbig]; exact readLE_toLE 4 _ (Nat.lt_of_le_of_lt (Nat.sub_le _ _) ho)
  · have := slice_slice (toLE 4 b.id ++ f ++ toLE 2 b.data.length ++ toLE 2 b.flags) 4 4 0 b.data.length (by omega)
    rw [← this, p2, ← hf, if_neg hs]; exact slice_prefix _ _

theorem known_flags_all : ∀ e ∈ known, e.2.1 = 0xC ∨ e.2.1 = 0xE := by decide

theorem known_flags (id efl esz : Nat) (h : knownOf id = some (efl, esz)) : efl = 0xC ∨ efl = 0xE := by
  unfold knownOf at h
  cases hf : known.find? (·.1 == id) with
  | none => rw [hf] at h; cases h
  | some e =>
    rw [hf] at h
    simp only [Option.map_some, Option.some.injEq] at h
    have := known_flags_all e (List.mem_of_find?_eq_some hf)
    rw [h] at this
    exact this

theorem put_fresh (l : List Block) (id fl : Nat) (data : Bytes) (h : ∀ x ∈ l, x.id ≠ id) :
    put l id fl data = l ++ [⟨id, fl, data⟩] :=
  if_neg fun hany => let ⟨x, hx, hk⟩ := List.any_eq_true.mp hany; h x hx (eq_of_beq hk)

theorem setBlock_new (blocks : List Block) (b : Block) (hknown : knownOf b.id = some (b.flags, b.data.length))
    (hnew : ∀ x ∈ blocks, x.id ≠ b.id) : setBlock blocks b.id b.data (some b.flags) = .ok (blocks ++ [b]) := by
  unfold setBlock
  rw [hknown]
  simp only
  rw [if_neg (by simp), if_neg (by simp)]
  have hr : resolveFlags blocks b.id (some b.flags) b.flags = b.flags := rfl
  rw [hr]
  have := known_flags _ _ _ hknown
  rw [if_neg (by omega), put_fresh _ _ _ _ hnew]

/-- One block stored in an image, as `load` reads it: its entry is number `k` of the table `E`, written when the data offset
    stood at `o`, and its data, if larger than 4 bytes, end at `o`, above `dataOff`. -/
def StoredAt (img E : Bytes) (dataOff k o : Nat) (b : Block) : Prop :=
  slice E (k * 0xC) 0xC = entryOf b o ∧ b.id < 2 ^ 32 ∧ b.data.length < 2 ^ 16 ∧ b.flags < 2 ^ 16 ∧ o < 2 ^ 32 ∧
    (b.data.length > 4 → b.data.length ≤ o ∧ dataOff ≤ o - b.data.length ∧
      slice img (o - b.data.length) b.data.length = b.data)

theorem loadStep_ok (img E : Bytes) (dataOff : Nat) (blocks : List Block) (k : Nat) (b : Block) (o : Nat)
    (hb : StoredAt img E dataOff k o b) (hknown : knownOf b.id = some (b.flags, b.data.length))
    (hnew : ∀ x ∈ blocks, x.id ≠ b.id) :
    loadStep img E dataOff (.ok (o, blocks)) k = .ok (nextOff o b, blocks ++ [b]) := by
  obtain ⟨hE, h1, h2, h3, ho, hdat⟩ := hb
  unfold loadStep
  simp only
  rw [hE]
  obtain ⟨f1, f2, f3, f4, f5⟩ := entry_fields b o h1 h2 h3 ho
  rw [f1, f2, f3]
  by_cases hbig : b.data.length > 4
  · obtain ⟨c1, c2, c3⟩ := hdat hbig
    rw [f4 hbig, if_pos hbig, if_neg (by omega), if_neg (by omega)]
    rw [c3, setBlock_new blocks b hknown hnew]
    rw [nextOff, outData_big hbig]
  · rw [if_neg hbig, if_pos (by omega)]
    rw [f5 hbig, setBlock_new blocks b hknown hnew]
    rw [nextOff, outData_small hbig, List.length_nil, Nat.sub_zero]

/-- a block list as the strict `set_block` can build it.  `count`: the table of `4 + 12 n` bytes has to fit the 0x8000-byte
    image, and any bound up to 2730 says so (the 65 known ids, none twice, allow no more than 65 blocks anyway). -/
structure WF (bl : List Block) : Prop where
  known : ∀ b, b ∈ bl → knownOf b.id = some (b.flags, b.data.length)
  distinct : (bl.map (·.id)).Nodup
  count : bl.length ≤ 2000

def Stored (img E : Bytes) (dataOff : Nat) : Nat → Nat → List Block → Prop
  | _, _, [] => True
  | k, o, b :: r => StoredAt img E dataOff k o b ∧ Stored img E dataOff (k + 1) (nextOff o b) r

theorem load_stored (img E : Bytes) (dataOff : Nat) : ∀ (suf pre : List Block) (o : Nat),
    Stored img E dataOff pre.length o suf → (∀ b ∈ suf, knownOf b.id = some (b.flags, b.data.length)) →
    ((pre ++ suf).map (·.id)).Nodup →
    (List.range' pre.length suf.length).foldl (loadStep img E dataOff) (.ok (o, pre)) = .ok (offAfter o suf, pre ++ suf)
  | [], pre, o, _, _, _ => by rw [List.append_nil]; rfl
  | b :: r, pre, o, ⟨hb, hr⟩, hk, hd => by
    have hnew : ∀ x ∈ pre, x.id ≠ b.id := fun x hx =>
      (List.nodup_append.mp (List.map_append ▸ hd)).2.2 x.id (List.mem_map_of_mem hx) b.id List.mem_cons_self
    rw [List.length_cons, List.range'_succ, List.foldl_cons,
      loadStep_ok img E dataOff pre pre.length b o hb (hk b List.mem_cons_self) hnew]
    have ih := load_stored img E dataOff r (pre ++ [b]) (nextOff o b) (by rwa [List.length_append])
      (fun x hx => hk x (List.mem_cons_of_mem _ hx)) (by rwa [List.append_assoc])
    rwa [List.length_append, List.append_assoc] at ih

/-- `X` is the table before the entries of `suf`, `A` the image below their data, `T` the data above -/
theorem stored_written (limit dataOff : Nat) : ∀ (suf : List Block) (k o : Nat) (X A T : Bytes),
    StepsOK limit o suf → X.length = k * 0xC → (A ++ datasOf suf).length = o → o < 2 ^ 32 → dataOff ≤ offAfter o suf →
    Stored (A ++ datasOf suf ++ T) (X ++ entriesFrom o suf) dataOff k o suf
  | [], _, _, _, _, _, _, _, _, _, _ => trivial
  | b :: r, k, o, X, A, T, ⟨hb, hr⟩, hX, hA, ho, hF => by
    have hd : dataOff ≤ nextOff o b := Nat.le_trans hF (offAfter_le r _)
    have hE : X ++ entriesFrom o (b :: r) = X ++ entryOf b o ++ entriesFrom (nextOff o b) r := (List.append_assoc ..).symm
    have hI : A ++ datasOf (b :: r) ++ T = A ++ datasOf r ++ (outData b ++ T) := by simp only [datasOf, List.append_assoc]
    rw [datasOf, ← List.append_assoc, List.length_append] at hA
    unfold nextOff at hd
    rw [hE, hI]
    have hn : (A ++ datasOf r).length = nextOff o b := (Nat.sub_eq_of_eq_add hA.symm).symm
    refine ⟨⟨?_, hb.id_lt, hb.size_lt, hb.flags_lt, ho, fun hbig => ?_⟩, stored_written limit dataOff r (k + 1) _ _ A _ hr ?_ hn
      (Nat.lt_of_le_of_lt (Nat.sub_le _ _) ho) hF⟩
    · rw [List.append_assoc, slice_append_right' X _ _ 0 _ hX.symm, ← entryOf_length b o]; exact slice_prefix _ _
    · rw [nextOff, outData_big hbig] at hn
      have hsp := hb.fits
      rw [outData_big hbig] at hsp hd ⊢
      refine ⟨hsp, hd, ?_⟩
      rw [slice_append_right' _ _ _ 0 _ hn.symm]; exact slice_prefix _ _
    · rw [List.length_append, entryOf_length, hX, Nat.succ_mul]

theorem toBytes_ok (bl : List Block) (img : Bytes) (hb : toBytes bl = .ok img) :
    StepsOK (4 + bl.length * 0xC) saveSize bl ∧ bl.length < 2 ^ 16 ∧ offAfter saveSize bl < 2 ^ 16 ∧
    toLE 2 bl.length ++ toLE 2 (offAfter saveSize bl) ++ entriesFrom saveSize bl ++
      zeros (saveSize - (datasOf bl).length - (4 + 12 * bl.length)) ++ datasOf bl = img := by
  unfold toBytes at hb
  cases hf : bl.foldl (toBytesStep (4 + bl.length * 0xC)) (.ok (saveSize, [], [])) with
  | error e => rw [hf] at hb; cases hb
  | ok res =>
    rw [hf] at hb
    obtain ⟨rfl, hsteps⟩ := foldl_toBytesStep_ok _ _ _ _ _ _ hf
    simp only [List.nil_append, List.append_nil] at hb
    split at hb
    · cases hb
    · rename_i hov
      refine ⟨hsteps, by omega, by omega, ?_⟩
      rw [← Except.ok.inj hb]
      simp only [List.length_append, toLE_length, entriesFrom_length, Nat.reduceAdd]

theorem cfg_roundtrip (bl : List Block) (hwf : WF bl) (img : Bytes) (hb : toBytes bl = .ok img) : load img = .ok bl := by
  obtain ⟨hsteps, hn, hoff, himg⟩ := toBytes_ok bl img hb
  have hss : saveSize = 0x8000 := rfl
  have hEl := entriesFrom_length bl saveSize
  have hsum := off_plus_datas _ _ _ hsteps
  have hcount := hwf.count
  have hlim := offAfter_ge _ _ _ hsteps (by omega)
  have L : Laid img 0 [toLE 2 bl.length, toLE 2 (offAfter saveSize bl), entriesFrom saveSize bl] :=
    himg ▸ by simpa using laid_append [] [toLE 2 bl.length, toLE 2 (offAfter saveSize bl), entriesFrom saveSize bl] _
  simp only [Laid, toLE_length, hEl, Nat.zero_add, Nat.reduceAdd] at L
  obtain ⟨s1, s2, s3, -⟩ := L
  -- `A`: header, entry table and zero fill; the data area follows and ends the image at `saveSize`
  generalize hA : toLE 2 bl.length ++ toLE 2 (offAfter saveSize bl) ++ entriesFrom saveSize bl ++ zeros _ = A at himg
  have hAl : (A ++ datasOf bl).length = saveSize := by
    rw [← hA]; simp only [List.length_append, toLE_length, zeros_length, hEl]; omega
  have hst := stored_written _ (offAfter saveSize bl) bl 0 saveSize [] A [] hsteps rfl hAl (by omega) (Nat.le_refl _)
  rw [List.append_nil, himg, List.nil_append] at hst
  rw [himg] at hAl
  unfold load
  rw [if_neg (Classical.not_not.mpr hAl), s1, s2, readLE_toLE 2 _ hn, readLE_toLE 2 _ hoff]
  rw [if_neg (by omega), s3, List.range_eq_range']
  exact congrArg (Except.map (·.2)) (load_stored img _ _ bl [] saveSize hst hwf.known hwf.distinct)

end ConfigSave
end Pyctr
