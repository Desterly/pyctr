/-
  C18: the write path at the container — what `IVFCLevel4Reader.write` does (`lv4Write_inv`: clamp, `write_data`, then the
  descriptor / header / CMAC update) and what that update does (`updateHashes_spec`, one statement for both container kinds).
-/
import Proofs.SaveOpen
namespace Pyctr
namespace Save
variable (H : Bytes → Bytes) (mac : Bytes → Bytes → Bytes) (cm : Option CmacScheme)

/-- the data a write at the reader's position actually transfers -/
def writeClamp (p : PartSt) (data : Bytes) : Bytes :=
  if p.seek + data.length > p.ivfc.lv4.size then data.take (p.ivfc.lv4.size - p.seek) else data

theorem writeClamp_length (p : PartSt) (data : Bytes) :
    (writeClamp p data).length = min data.length (p.ivfc.lv4.size - p.seek) := by
  unfold writeClamp; split
  · rw [List.length_take]; omega
  · omega

theorem writeClamp_fits (p : PartSt) (data : Bytes) (hne : writeClamp p data ≠ []) :
    p.seek + (writeClamp p data).length ≤ p.ivfc.lv4.size := by
  have h0 : (writeClamp p data).length ≠ 0 := fun h => hne (List.eq_nil_of_length_eq_zero h)
  rw [writeClamp_length] at h0 ⊢
  omega

theorem writeClamp_eq_nil (p : PartSt) (data : Bytes) (h : data = [] ∨ p.ivfc.lv4.size ≤ p.seek) : writeClamp p data = [] := by
  apply List.eq_nil_of_length_eq_zero
  rw [writeClamp_length]
  rcases h with rfl | h
  · rfl
  · omega

theorem lv4Write_some (c : Cont) (pi : Nat) (data : Bytes) (n : Nat) (c' : Cont) (h : lv4Write H mac cm c pi data = .ok (n, c')) :
    ∃ p, c.parts[pi]? = some p := by
  unfold lv4Write at h
  split at h
  · cases h
  · exact ⟨_, ‹_›⟩

theorem lv4Write_empty (c : Cont) (pi : Nat) (p : PartSt) (hp : c.parts[pi]? = some p) (data : Bytes)
    (he : writeClamp p data = []) : lv4Write H mac cm c pi data = .ok (0, c) := by
  unfold lv4Write
  rw [hp]
  unfold writeClamp at he
  simp only [he, List.isEmpty_nil, if_true]

theorem lv4Write_empty_inv (c : Cont) (pi : Nat) (p : PartSt) (hp : c.parts[pi]? = some p) (data : Bytes) (n : Nat) (c' : Cont)
    (he : writeClamp p data = []) (h : lv4Write H mac cm c pi data = .ok (n, c')) : c' = c :=
  (Prod.mk.inj (Except.ok.inj ((lv4Write_empty H mac cm c pi p hp data he).symm.trans h))).2.symm

/-- the state `write_data` starts from: the partition window of the file, the partition's master hashes and caches -/
def PartSt.writeStart (p : PartSt) (F : Bytes) : WState := ⟨⟨F, p.pOff, p.pSize⟩, p.master, p.caches, false⟩

def PartSt.wrote (p : PartSt) (s : WState) (n : Nat) : PartSt :=
  { p with master := s.master, caches := s.caches, seek := p.seek + n }

theorem lv4Write_inv (c : Cont) (pi : Nat) (p : PartSt) (hp : c.parts[pi]? = some p) (data : Bytes) (n : Nat) (c' : Cont)
    (h : lv4Write H mac cm c pi data = .ok (n, c')) :
    n = (writeClamp p data).length ∧
    ((writeClamp p data = [] ∧ c' = c) ∨
     (writeClamp p data ≠ [] ∧ c.writable = true ∧
      ∃ s, writeData H p.tree 3 p.seek (writeClamp p data) (p.writeStart c.F) = .ok s ∧
        ((s.masterTouched = true ∧ ∃ pd F' hdr, partdescToBytes ⟨p.difi, p.ivfc, p.dpfs, s.master⟩ p.descSize = some pd ∧
            updateHashes H mac cm c s.w.F p pd = .ok (F', hdr) ∧
            c' = { c with F := F', header := hdr, parts := c.parts.set pi (p.wrote s n) }) ∨
         (s.masterTouched = false ∧ c' = { c with F := s.w.F, parts := c.parts.set pi (p.wrote s n) })))) := by
  revert h
  fun_cases lv4Write H mac cm c pi data
  case case2 q hq _ d he =>
    obtain rfl : p = q := Option.some.inj (hp.symm.trans hq)
    intro h
    obtain ⟨rfl, rfl⟩ := Prod.mk.inj (Except.ok.inj h)
    have hd : writeClamp p data = [] := List.isEmpty_iff.mp he
    exact ⟨by rw [hd]; rfl, .inl ⟨hd, rfl⟩⟩
  case case7 q hq _ d hne hw s hwd _ hmt pd hpd F' hdr hu =>
    obtain rfl : p = q := Option.some.inj (hp.symm.trans hq)
    intro h
    obtain ⟨rfl, rfl⟩ := Prod.mk.inj (Except.ok.inj h)
    exact ⟨rfl, .inr ⟨fun he => hne (by rw [show d = [] from he]; rfl), by simpa using hw, s, hwd,
      .inl ⟨hmt, pd, F', hdr, hpd, hu, rfl⟩⟩⟩
  case case8 q hq _ d hne hw s hwd _ hmt =>
    obtain rfl : p = q := Option.some.inj (hp.symm.trans hq)
    intro h
    obtain ⟨rfl, rfl⟩ := Prod.mk.inj (Except.ok.inj h)
    exact ⟨rfl, .inr ⟨fun he => hne (by rw [show d = [] from he]; rfl), by simpa using hw, s, hwd,
      .inr ⟨by simpa using hmt, rfl⟩⟩⟩
  all_goals exact fun h => nomatch h

theorem genCmac_length (sch : CmacScheme) (header m : Bytes) (hmac : ∀ k x, (mac k x).length = 0x10)
    (hg : genCmac H mac sch header = .ok m) : m.length = 0x10 := by
  revert hg
  fun_cases genCmac H mac sch header
  -- either scheme (SAV0-wrapped, plain) ends in one `mac`
  case case3 | case4 => intro hg; rw [← Except.ok.inj hg, hmac]
  all_goals exact fun h => nomatch h

/-- `_update_hashes` after the descriptor has been written: header hash field, header copy, CMAC -/
def stage2 (header : Bytes) (hoff : Nat) (F1 dg : Bytes) : Except Err (Bytes × Bytes) :=
  let wr (F : Bytes) (pos : Nat) (d : Bytes) : Bytes := if d.isEmpty then F else overlay F pos d
  let header' := assign header hoff dg
  let F2 := wr F1 0x100 header'
  match cm with
  | none => .ok (F2, header')
  | some sch =>
    match genCmac H mac sch header' with
    | .error e => .error e
    | .ok m => .ok (wr F2 0 m, header')

/-- the container's `write` skips empty data; inside the file that is no different from laying nothing over it -/
theorem wr_eq_overlay (F : Bytes) (pos : Nat) (d : Bytes) (h : pos ≤ F.length) :
    (if d.isEmpty then F else overlay F pos d) = overlay F pos d := by
  split
  · rename_i he; rw [List.isEmpty_iff.mp he, overlay_nil _ _ h]
  · rfl

theorem stage2_spec (header : Bytes) (hoff : Nat) (F1 dg F' header' : Bytes) (hBF : 0x200 ≤ F1.length) (hh : header.length = 0x100)
    (hoffle : hoff + 0x20 ≤ 0x100) (hdl : dg.length = 0x20) (hmac : ∀ k x, (mac k x).length = 0x10)
    (h : stage2 H mac cm header hoff F1 dg = .ok (F', header')) :
    header' = assign header hoff dg ∧ F'.length = F1.length ∧ slice F' 0x100 0x100 = header' ∧
      (∀ z, 0x200 ≤ z → F'[z]? = F1[z]?) ∧
      (∀ sch m, cm = some sch → genCmac H mac sch header' = .ok m → slice F' 0 0x10 = m) := by
  unfold stage2 at h
  simp only at h
  generalize hA : assign header hoff dg = A at h ⊢
  have hal : A.length = 0x100 := by
    rw [← hA, assign_eq_overlay _ _ _ (by omega), overlay_length_inside _ _ _ (by omega), hh]
  rw [wr_eq_overlay _ _ _ (by omega)] at h
  have hF2 : slice (overlay F1 0x100 A) 0x100 0x100 = A := by
    have := slice_overlay_same F1 0x100 A; rwa [hal] at this
  have hl2 : (overlay F1 0x100 A).length = F1.length := overlay_length_inside _ _ _ (by omega)
  cases cm with
  | none =>
    obtain ⟨rfl, rfl⟩ := Prod.mk.inj (Except.ok.inj h)
    exact ⟨rfl, hl2, hF2, fun z hz => overlay_getElem?_outside _ _ _ _ (Or.inr (by omega)), fun _ _ hc => by cases hc⟩
  | some sch =>
    simp only at h
    cases hg : genCmac H mac sch A with
    | error e => rw [hg] at h; cases h
    | ok m =>
      rw [hg] at h
      have hml := genCmac_length H mac sch _ m hmac hg
      simp only at h
      rw [wr_eq_overlay _ _ _ (Nat.zero_le _)] at h
      obtain ⟨rfl, rfl⟩ := Prod.mk.inj (Except.ok.inj h)
      refine ⟨rfl, by rw [overlay_length_inside _ _ _ (by omega), hl2], ?_, fun z hz => ?_, fun sch' m' hc hg' => ?_⟩
      · rw [slice_overlay_outside _ _ _ _ _ (Or.inr (by omega)) (Or.inl (Nat.zero_le _))]; exact hF2
      · rw [overlay_getElem?_outside _ _ _ _ (Or.inr (by omega)), overlay_getElem?_outside _ _ _ _ (Or.inr (by omega))]
      · cases hc
        rw [hg] at hg'; cases hg'
        have := slice_overlay_same (overlay F1 0x100 A) 0 m; rwa [hml] at this

/-- where `_update_hashes` puts the descriptor inside the active table -/
def descPos (c : Cont) (p : PartSt) : Nat := match c.kind with | .diff => 0 | .disa => p.descOff

/-- the digest `_update_hashes` stores: of the descriptor (DIFF), of the whole table as it stands in the file `F'` (DISA) -/
def tableDigest (H : Bytes → Bytes) (c : Cont) (pd F' : Bytes) : Bytes :=
  match c.kind with | .diff => H pd | .disa => H (slice F' c.tableOff c.tableSize)

/-- the model spells `_update_hashes` out per kind; the two differ only in `descPos` and `tableDigest` -/
theorem updateHashes_eq (c : Cont) (F : Bytes) (p : PartSt) (pd : Bytes) :
    updateHashes H mac cm c F p pd =
      stage2 H mac cm c.header (hdrView c.kind c.header).hoff (if pd.isEmpty then F else overlay F (c.tableOff + descPos c p) pd)
        (tableDigest H c pd (if pd.isEmpty then F else overlay F (c.tableOff + descPos c p) pd)) := by
  unfold updateHashes stage2 descPos tableDigest
  cases c.kind <;> cases cm <;> rfl

theorem tableDigest_congr (c : Cont) (pd F1 F2 : Bytes) (hoff : 0x200 ≤ c.tableOff) (h : ∀ z, 0x200 ≤ z → F1[z]? = F2[z]?) :
    tableDigest H c pd F1 = tableDigest H c pd F2 := by
  unfold tableDigest
  split
  · rfl
  · rw [slice_congr _ _ _ _ fun i hi _ => (h i (Nat.le_trans hoff hi)).symm]

/-- **`_update_hashes` + `_update_cmac`, either kind**, from file `F` to `F'` and in-memory header `hdr`; `past`: the file changes
    only in the header area `[0, 0x200)` and where the descriptor is stored -/
structure HashesUpdated (H : Bytes → Bytes) (mac : Bytes → Bytes → Bytes) (cm : Option CmacScheme) (c : Cont) (F : Bytes)
    (p : PartSt) (pd F' hdr : Bytes) : Prop where
  flen : F'.length = F.length
  past : ∀ z, 0x200 ≤ z → F'[z]? = (overlay F (c.tableOff + descPos c p) pd)[z]?
  header : slice F' 0x100 0x100 = hdr
  digest : 0x200 ≤ c.tableOff → hdr = assign c.header (hdrView c.kind c.header).hoff (tableDigest H c pd F')
  cmac : ∀ sch m, cm = some sch → genCmac H mac sch hdr = .ok m → slice F' 0 0x10 = m

theorem updateHashes_spec (c : Cont) (F : Bytes) (p : PartSt) (pd F' hdr : Bytes)
    (hh : c.header.length = 0x100) (hH : ∀ x, (H x).length = 0x20) (hmac : ∀ k x, (mac k x).length = 0x10)
    (hFl : 0x200 ≤ F.length) (hF : c.tableOff + descPos c p + pd.length ≤ F.length)
    (h : updateHashes H mac cm c F p pd = .ok (F', hdr)) : HashesUpdated H mac cm c F p pd F' hdr := by
  rw [updateHashes_eq, wr_eq_overlay _ _ _ (by omega)] at h
  generalize hF1 : overlay F (c.tableOff + descPos c p) pd = F1 at h
  have hF1l : F1.length = F.length := by rw [← hF1]; exact overlay_length_inside _ _ _ hF
  have hhoff : (hdrView c.kind c.header).hoff + 0x20 ≤ 0x100 := by cases c.kind <;> simp [hdrView]
  have hdl : (tableDigest H c pd F1).length = 0x20 := by unfold tableDigest; split <;> exact hH _
  obtain ⟨t1, t2, t3, t4, t5⟩ := stage2_spec H mac cm c.header _ F1 _ F' hdr (by omega) hh hhoff hdl hmac h
  exact
    { flen := by rw [t2, hF1l], past := hF1 ▸ t4, header := t3, cmac := t5
      digest := fun hoff => by rw [tableDigest_congr H c pd F' F1 hoff t4]; exact t1 }

/-- in particular the update leaves a partition that starts at or after `B` alone -/
theorem updateHashes_frame (c : Cont) (F : Bytes) (p : PartSt) (pd : Bytes) (F' header' : Bytes) (B : Nat) (hB1 : 0x200 ≤ B)
    (hB2 : c.tableOff + p.descOff + pd.length ≤ B) (hBF : B ≤ F.length) (hh : c.header.length = 0x100)
    (hH : ∀ x, (H x).length = 0x20) (hmac : ∀ k x, (mac k x).length = 0x10)
    (h : updateHashes H mac cm c F p pd = .ok (F', header')) :
    F'.length = F.length ∧ ∀ z, B ≤ z → F'[z]? = F[z]? := by
  have hd : descPos c p ≤ p.descOff := by unfold descPos; split <;> omega
  have U := updateHashes_spec H mac cm c F p pd F' header' hh hH hmac (by omega) (by omega) h
  exact ⟨U.flen, fun z hz => by rw [U.past z (by omega)]; exact overlay_getElem?_outside _ _ _ _ (Or.inr (by omega))⟩

theorem updateHashes_table (c : Cont) (F : Bytes) (p : PartSt) (pd F' hdr : Bytes)
    (hh : c.header.length = 0x100) (hH : ∀ x, (H x).length = 0x20) (hmac : ∀ k x, (mac k x).length = 0x10)
    (hoff : 0x200 ≤ c.tableOff) (hT : c.tableOff + c.tableSize ≤ F.length) (hd : descPos c p + pd.length ≤ c.tableSize)
    (h : updateHashes H mac cm c F p pd = .ok (F', hdr)) :
    slice F' c.tableOff c.tableSize = overlay (slice F c.tableOff c.tableSize) (descPos c p) pd := by
  have U := updateHashes_spec H mac cm c F p pd F' hdr hh hH hmac (by omega) (by omega) h
  rw [slice_congr _ F' _ _ fun i hi _ => U.past i (by omega)]
  exact slice_overlay_window _ _ _ _ _ (by omega)

/-- a descriptor that fills the table (DIFF) is the new table: in either kind the stored digest is what `open` recomputes -/
theorem tableDigest_eq_table (c : Cont) (pd F' : Bytes) (h : c.kind = .diff → slice F' c.tableOff c.tableSize = pd) :
    tableDigest H c pd F' = H (slice F' c.tableOff c.tableSize) := by
  unfold tableDigest
  cases hk : c.kind with
  | disa => rfl
  | diff => simp only; rw [h hk]

end Save
end Pyctr
