/-
  `CTRFileIO` (3DS flavour): over the inner file of ciphertext it is the file `absCtr`, which is `xorFile` for the keystream `ksByte`
  of the wrapper's counter.  What needs an invariant is the cipher object the wrapper keeps between calls (`Coh`): it must
  stand at the inner file's position; `seek` drops it, `read` and `write` advance it with the file.
-/
import Proofs.XorStream
import Proofs.Sim
namespace Pyctr
namespace CtrIO
variable {σ : Type} {F : FileOps σ} {inv : σ → Prop} {abs : σ → AFile} (E : Bytes → Bytes)

/-- the cached cipher object, if any, is locked to the recorded direction and positioned at the reader's offset;
    the one exception is the harmless state right after a write that a window truncated -/
def Coh (abs : σ → AFile) (s : CtrIO σ) : Prop :=
  ∀ c, s.cipher = some c →
    c.dir = some s.cipherDec ∧
    (16 * c.c0 + c.used = 16 * s.counter + (abs s.reader).pos ∨
     (s.cipherDec = false ∧ (abs s.reader).fixed = true ∧ (abs s.reader).content.length ≤ (abs s.reader).pos))

def invCtr (inv : σ → Prop) (abs : σ → AFile) (s : CtrIO σ) : Prop := inv s.reader ∧ Coh abs s

def absCtr (abs : σ → AFile) (s : CtrIO σ) : AFile :=
  { abs s.reader with content := xorWith (ksByte E s.counter) 0 (abs s.reader).content }

theorem absCtr_eq (s : CtrIO σ) : absCtr E abs s = xorFile (ksByte E s.counter) (abs s.reader) := rfl

theorem apply_coh (c : CtrObj) (d : Bool) (ctr pos : Nat) (data : Bytes)
    (hd : c.dir ≠ some (!d)) (hc : 16 * c.c0 + c.used = 16 * ctr + pos) :
    c.apply E d data = .ok (xorWith (ksByte E ctr) pos data, { c with used := c.used + data.length, dir := some d }) := by
  rw [CtrObj.apply, if_neg hd, ← xorWith_congr (ksByte_shift E hc) data]
  rfl

/-- without a usable cached cipher the code makes one for the block of `cur` and runs it over `cur % 16` zeros -/
theorem fresh_coh (d : Bool) (ctr cur : Nat) :
    (⟨ctr + cur / 16, 0, none⟩ : CtrObj).apply E d (zeros (cur % 16)) =
      .ok (xorWith (ksByte E (ctr + cur / 16)) 0 (zeros (cur % 16)), ⟨ctr + cur / 16, cur % 16, some d⟩) := by
  rw [apply_coh E _ d (ctr + cur / 16) 0 _ (by simp) rfl, zeros_length, Nat.zero_add]

theorem read_coh {s : CtrIO σ} {r2 : σ} {d : Bytes} (vr : inv r2) (hp : (abs r2).pos = (abs s.reader).pos + d.length)
    (c : CtrObj) (hdir : c.dir ≠ some false) (hc : 16 * c.c0 + c.used = 16 * s.counter + (abs s.reader).pos) :
    ∃ c', c.apply E true d = .ok (xorWith (ksByte E s.counter) (abs s.reader).pos d, c') ∧
      invCtr inv abs { s with reader := r2, cipher := some c', cipherDec := true } := by
  refine ⟨_, apply_coh E c true s.counter _ d (by simpa using hdir) hc, vr, ?_⟩
  rintro _ ⟨⟩
  exact ⟨rfl, Or.inl (by
    show 16 * c.c0 + (c.used + d.length) = _
    rw [hp, ← Nat.add_assoc, hc, Nat.add_assoc])⟩

theorem read_refines (hF : IsReadable F inv abs) (s : CtrIO σ) (n : Int) (h : invCtr inv abs s) :
    ∃ s', CtrIO.read F E s n = .ok (((absCtr E abs s).read n).1, s') ∧
      absCtr E abs s' = ((absCtr E abs s).read n).2 ∧ invCtr inv abs s' := by
  simp only [absCtr_eq]
  obtain ⟨r1, et, at1, vt⟩ := hF.tell s.reader h.1
  obtain ⟨r2, d, er, hd, ha, vr, hp⟩ := inner_read_xor (ksByte E s.counter) hF r1 n vt
  rw [at1] at hd ha hp
  cases hc : (if s.cipherDec then s.cipher else none) with
  | some c =>
    obtain ⟨hdec, hcip⟩ := Option.ite_none_right_eq_some.mp hc
    obtain ⟨hdir, hcoh⟩ := h.2 c hcip
    obtain ⟨c', ec, hi⟩ := read_coh E vr hp c (by simp [hdir, hdec]) (hcoh.resolve_right fun hf => by simp [hdec] at hf)
    refine ⟨{ s with reader := r2, cipher := some c' }, ?_, ha, ?_⟩
    · simp only [CtrIO.read, et, er, bind, Except.bind, hc, ec, hd]
    · rw [← hdec] at hi; exact hi
  | none =>
    obtain ⟨c', ec, hi⟩ := read_coh E vr hp ⟨s.counter + (abs s.reader).pos / 16, (abs s.reader).pos % 16, some true⟩ (by simp)
      (block_pos ..)
    exact ⟨{ s with reader := r2, cipher := some c', cipherDec := true },
      by simp only [CtrIO.read, et, er, bind, Except.bind, hc, fresh_coh, ec, hd], ha, hi⟩

/-- a write that a window cuts short leaves the window full, and at a full window nothing is stored, whatever the cipher: hence
    the second alternative of `hcoh` -/
theorem write_coh (hF : IsFileW F inv abs) {s : CtrIO σ} {r1 : σ} (w : Bytes) (vt : inv r1) (at1 : abs r1 = abs s.reader)
    (hg : (abs s.reader).noGap) (c : CtrObj) (hdir : c.dir ≠ some true)
    (hcoh : 16 * c.c0 + c.used = 16 * s.counter + (abs s.reader).pos ∨
      ((abs s.reader).fixed = true ∧ (abs s.reader).content.length ≤ (abs s.reader).pos)) :
    ∃ enc c' r2, c.apply E false w = .ok (enc, c') ∧ F.write r1 enc = .ok (((absCtr E abs s).write w).1, r2) ∧
      absCtr E abs { s with reader := r2, cipher := some c', cipherDec := false } = ((absCtr E abs s).write w).2 ∧
      invCtr inv abs { s with reader := r2, cipher := some c', cipherDec := false } := by
  simp only [absCtr_eq]
  rcases hcoh with hc | ⟨hf, hl⟩
  · obtain ⟨r2, ew, aw, vw, hfx, hlen, hpos⟩ := inner_write_xor (ksByte E s.counter) hF r1 w vt (at1 ▸ hg)
    rw [at1] at ew aw hfx hlen hpos
    refine ⟨_, _, r2, apply_coh E c false s.counter _ w (by simpa using hdir) hc, ew, aw, vw, ?_⟩
    rintro _ ⟨⟩
    refine ⟨rfl, ?_⟩
    by_cases hs : ((abs s.reader).writeTake w).length < w.length
    · obtain ⟨hf, hl⟩ := AFile.writeTake_short _ _ hs
      exact Or.inr ⟨rfl, by rw [hfx]; exact hf, by rw [hlen hf, hpos]; exact hl⟩
    · refine Or.inl ?_
      show 16 * c.c0 + (c.used + w.length) = _
      rw [hpos, ← Nat.add_assoc, hc, Nat.add_assoc,
        Nat.le_antisymm (AFile.writeTake_length_le (abs s.reader) w) (Nat.le_of_not_lt hs)]
  · obtain ⟨r2, ew, aw, vw⟩ := hF.write r1 (w.mapIdx fun i b => b ^^^ ksByte E c.c0 (c.used + i)) vt (at1 ▸ hg)
    rw [at1, AFile.write_past _ _ hf hl] at ew aw
    have hz : (xorFile (ksByte E s.counter) (abs s.reader)).write w = (0, xorFile (ksByte E s.counter) (abs s.reader)) :=
      AFile.write_past _ w hf (by rw [xorFile, xorWith_length]; exact hl)
    refine ⟨_, _, r2, by rw [CtrObj.apply, if_neg (by simpa using hdir)], by rw [hz]; exact ew,
      by rw [hz]; simp only [aw], vw, ?_⟩
    rintro _ ⟨⟩
    exact ⟨rfl, Or.inr ⟨rfl, by rw [aw]; exact hf, by rw [aw]; exact hl⟩⟩

theorem write_refines (hF : IsFileW F inv abs) (s : CtrIO σ) (w : Bytes) (h : invCtr inv abs s)
    (hg : (abs s.reader).noGap) :
    ∃ s', CtrIO.write F E s w = .ok (((absCtr E abs s).write w).1, s') ∧
      absCtr E abs s' = ((absCtr E abs s).write w).2 ∧ invCtr inv abs s' := by
  obtain ⟨r1, et, at1, vt⟩ := hF.tell s.reader h.1
  cases hc : (if s.cipherDec then none else s.cipher) with
  | some c =>
    obtain ⟨hdec, hcip⟩ := Option.ite_none_left_eq_some.mp hc
    have hdec := Bool.eq_false_iff.mpr hdec
    obtain ⟨hdir, hcoh⟩ := h.2 c hcip
    obtain ⟨enc, c', r2, ea, ew, aw, hi⟩ :=
      write_coh E hF w vt at1 hg c (by simp [hdir, hdec]) (hcoh.imp id fun ⟨_, hf, hl⟩ => ⟨hf, hl⟩)
    rw [← hdec] at hi
    exact ⟨{ s with reader := r2, cipher := some c' }, by simp only [CtrIO.write, et, bind, Except.bind, hc, ea, ew],
      aw, hi⟩
  | none =>
    obtain ⟨enc, c', r2, ea, ew, aw, hi⟩ := write_coh E hF w vt at1 hg
      ⟨s.counter + (abs s.reader).pos / 16, (abs s.reader).pos % 16, some false⟩ (by simp) (.inl (block_pos ..))
    exact ⟨{ s with reader := r2, cipher := some c', cipherDec := false },
      by simp only [CtrIO.write, et, bind, Except.bind, hc, fresh_coh, ea, ew], aw, hi⟩

theorem ctr_isReadable (hF : IsReadable F inv abs) :
    IsReadable (CtrIO.ops F E) (invCtr inv abs) (absCtr E abs) :=
  .of_sim (fun s n h => simG_opRel_ok.mpr (read_refines E hF s n h))
    (fun s off wh h => hF.sim_seek_through (xorWith_length _ 0) (fun r => { s with reader := r, cipher := none }) _ off wh
      h.1 fun _ hi _ => ⟨rfl, hi, fun _ hc => nomatch hc⟩)
    (fun s h => hF.sim_tell_through (fun r => { s with reader := r }) _ h.1 fun _ hi ha =>
      ⟨rfl, hi, fun c hc => ha ▸ h.2 c hc⟩)

theorem ctr_isFileW (hF : IsFileW F inv abs) : IsFileW (CtrIO.ops F E) (invCtr inv abs) (absCtr E abs) where
  toIsReadable := ctr_isReadable E hF.toIsReadable
  write s w h hg := write_refines E hF s w h (hg.imp id fun hp => by rwa [absCtr, xorWith_length] at hp)

theorem ctr_isFile_of_fixed (hF : IsFileW F inv abs) (hfix : ∀ r, inv r → (abs r).fixed = true) :
    IsFile (CtrIO.ops F E) (invCtr inv abs) (absCtr E abs) :=
  (ctr_isFileW E hF).isFile_of_fixed fun _ h => hfix _ h.1

end CtrIO
end Pyctr
