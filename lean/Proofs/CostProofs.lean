/-
  C19: termination and cost — the loops whose trip count is driven by on-disk values, and the sizes of what the parsers build.
  (`Tmd.rstripNul_eq` stands here because this module sees both the TMD and the ExeFS model.)
-/
import PyctrModel.Fmt.Cci
import PyctrModel.Fmt.Cia
import PyctrModel.Fmt.Exefs
import PyctrModel.Fmt.Romfs
import Proofs.LzssRoundtrip
import Proofs.TmdRecords
namespace Pyctr

namespace Lzss

theorem items_pin_le (cs de ctrl i : Nat) (s s' : St) (h : items cs de ctrl i s = .ok s') : s'.pin ≤ s.pin := by
  fun_induction items cs de ctrl i s
  -- no item left, or a pointer at the start of the compressed part
  case case1 | case2 => cases h; exact Nat.le_refl _
  -- a back reference consumes two bytes of input, and copying moves only the output pointer
  case case8 ih =>
    have := ih h
    rw [copySeg_pin] at this
    exact Nat.le_trans this (Nat.sub_le _ _)
  -- a literal consumes one
  case case9 ih => exact Nat.le_trans (ih h) (Nat.sub_le _ _)
  all_goals cases h

theorem outer_add_fuel (cs de f : Nat) (s : St) (h : s.pin - cs ≤ f) (k : Nat) : outer cs de (f + k) s = outer cs de f s := by
  fun_induction outer cs de f s with
  -- no fuel, so by `h` the input pointer is at the start: the loop condition fails
  | case1 s => cases k with
    | zero => rfl
    | succ k => rw [Nat.zero_add, outer, if_neg (by omega)]
  -- the three ways a round raises: pointers crossed, control byte past the buffer, an item
  | case2 f s hc h2 => rw [Nat.succ_add, outer, if_pos hc, if_pos h2]
  | case3 f s hc h2 pin h3 =>
    rw [Nat.succ_add, outer, if_pos hc, if_neg h2]
    exact if_pos h3
  | case4 f s hc h2 pin h3 ctrl e hi =>
    rw [Nat.succ_add, outer, if_pos hc, if_neg h2]
    simp only
    rw [if_neg h3, hi]
  -- a full round: the control byte and its items have moved the input pointer down by at least one
  | case5 f s hc h2 pin h3 ctrl s' hi ih =>
    rw [Nat.succ_add, outer, if_pos hc, if_neg h2]
    simp only
    rw [if_neg h3, hi]
    have := items_pin_le cs de _ 8 _ s' hi
    exact ih (by simp only at this; omega)
  | case6 f s hc => rw [Nat.succ_add, outer, if_neg hc]

end Lzss

namespace Romfs

/-- the visit counters are within the caps of the environment (`mkEnv`: the number of entries the tables as read can hold) -/
def Bnd (e : Env) (c : Counters) : Prop := c.dirs ≤ e.maxDirs ∧ c.files ≤ e.maxFiles

theorem fileLoop_bounded (e : Env) (fuel off : Nat) (acc : List (Str × PNode)) (c : Counters) (out c')
    (hb : Bnd e c) (h : fileLoop e fuel off acc c = .ok (out, c')) : Bnd e c' := by
  fun_induction fileLoop e fuel off acc c
  -- the last sibling: the entry was counted after the cap test passed
  case case5 => obtain ⟨-, rfl⟩ := Prod.mk.inj (Except.ok.inj h); exact ⟨hb.1, Nat.le_of_not_gt ‹¬ _ + 1 > e.maxFiles›⟩
  -- a sibling follows: the same, then the rest of the chain
  case case6 ih => exact ih ⟨hb.1, Nat.le_of_not_gt ‹¬ _ + 1 > e.maxFiles›⟩ h
  all_goals cases h

mutual
theorem iterDir_bounded (e : Env) : ∀ fuel raw c out c', Bnd e c → iterDir e fuel raw c = .ok (out, c') → Bnd e c'
  | 0, _, _, _, _, _, h => nomatch h
  | n + 1, raw, c, out, c', hb, h => by
    rw [iterDir] at h
    -- the chain of subdirectories, if there is one, then the chain of files, if there is one
    split at h
    · cases h
    rename_i o1 c1 hd
    have hb1 : Bnd e c1 := by
      split at hd
      · exact dirLoop_bounded e n _ _ _ _ _ hb hd
      · cases hd; exact hb
    split at h
    · exact fileLoop_bounded e _ _ _ _ _ _ hb1 h
    · cases h; exact hb1
theorem dirLoop_bounded (e : Env) : ∀ fuel off acc c out c', Bnd e c → dirLoop e fuel off acc c = .ok (out, c') → Bnd e c'
  | 0, _, _, _, _, _, _, h => nomatch h
  | n + 1, off, acc, c, out, c', hb, h => by
    rw [dirLoop] at h
    -- the entry cap, the name, the subdirectory: each failure ends the loop with an error
    split at h
    · cases h
    rename_i hcnt
    simp only at h
    split at h
    · cases h
    split at h
    · cases h
    split at h
    · cases h
    rename_i sub c1 hi
    have hb1 := iterDir_bounded e n _ { c with dirs := c.dirs + 1 } _ _ ⟨Nat.le_of_not_gt hcnt, hb.2⟩ hi
    split at h
    · cases h; exact hb1
    · exact dirLoop_bounded e n _ _ _ _ _ hb1 h
end
end Romfs

namespace Tmd
/-- pyctr strips trailing NULs (`bytes.rstrip(b'\0')`) in the TMD reader and in the ExeFS reader; each model has its own copy -/
theorem rstripNul_eq (b : Bytes) : rstripNul b = Exefs.rstripNul b := rfl

theorem infoList_length_le (raw : Bytes) : ∀ n i, (infoList raw n i).length ≤ n
  | 0, _ => Nat.le_refl 0
  | n + 1, i => by
    have ih := infoList_length_le raw n (i + 1)
    simp only [infoList]
    -- an all-zero slot is skipped, any other yields one record
    split
    · exact Nat.le_succ_of_le ih
    · exact Nat.succ_le_succ ih

theorem load_sizes (H : Bytes → Bytes) (v : Bool) (b : Bytes) (t : T) (h : load H v b = .ok t) :
    t.chunkRecords.length < 65536 ∧ t.infoRecords.length ≤ 64 := by
  revert h
  fun_cases load H v b
  -- the one branch that returns a value: its lists are `chunkList _ contentCount 0`, the count read from two bytes, and
  -- `infoList _ 64 0`
  case case7 =>
    intro h; cases h
    refine ⟨?_, infoList_length_le _ 64 0⟩
    rw [chunkList_length]
    refine Nat.lt_of_lt_of_le (readBE_lt _) (Nat.pow_le_pow_right (n := 256) (j := 2) (by decide) ?_)
    rw [slice_length]; exact Nat.min_le_left _ _
  all_goals intro h; cases h
end Tmd

namespace Cci
theorem partsOf_length_le (h : Bytes) : (partsOf h).length ≤ 8 := by
  exact Nat.le_trans (List.length_filterMap_le _ _) (by simp)
end Cci

namespace Exefs
theorem dictInsert_length_le (l : List Entry) (e : Entry) : (dictInsert l e).length ≤ l.length + 1 := by
  unfold dictInsert; split <;> simp

theorem parseFrom_length_le (header : Bytes) : ∀ n i acc es, parseFrom header n i acc = .ok es → es.length ≤ acc.length + n
  | 0, _, acc, es, h => by simp only [parseFrom, Except.ok.injEq] at h; subst h; omega
  | n + 1, i, acc, es, h => by
    simp only [parseFrom] at h
    split at h
    · cases h
    · have := parseFrom_length_le header n (i + 1) acc es h; omega
    · rename_i e _
      have := parseFrom_length_le header n (i + 1) (dictInsert acc e) es h
      have := dictInsert_length_le acc e
      omega

theorem parse_length_le (header : Bytes) (es : List Entry) (h : parse header = .ok es) : es.length ≤ 10 := by
  have := parseFrom_length_le header 10 0 [] es h; simpa using this
end Exefs

namespace Cia
theorem activeContents_length_le (index : Bytes) : (activeContents index).length ≤ 8 * index.length := by
  exact Nat.le_trans (List.length_filter_le _ _) (by simp)
end Cia
end Pyctr
