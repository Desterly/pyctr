/-
  The session invariants (C18).  `Good`: the state is what re-opening the file gives (`Synced`) and every partition is regular.
  `Good3`: moreover every verification cache is sound and every hash tree verifies completely.  Both are established by opening
  a regular container and preserved by every seek, read and write through the verified level-4 views.
-/
import Proofs.SaveCont
import Proofs.SaveReopen
namespace Pyctr
theorem map_snd_ok {ε α β : Type} (x : Except ε (α × β)) (b : β) (h : x.map (·.2) = .ok b) : ∃ a, x = .ok (a, b) := by
  cases x with
  | error e => cases h
  | ok r => cases h; exact ⟨r.1, rfl⟩

namespace Save

/-- the invariant of a session: the state is what re-opening the file gives, and every partition is regular -/
def Good (H : Bytes → Bytes) (c : Cont) : Prop :=
  Synced H c ∧ ∀ pi p, c.parts[pi]? = some p → PartOK c pi p

theorem parts_after_write {c : Cont} {pi : Nat} {p p' : PartSt} (L : DisaLayout c pi p) (F' : Bytes)
    (hOut : ∀ z, c.tableOff + c.tableSize ≤ z → (z < p.pOff ∨ p.pOff + p.pSize ≤ z) → F'[z]? = c.F[z]?) {j : Nat} {q : PartSt}
    (hq : (c.parts.set pi p')[j]? = some q) :
    (j = pi ∧ q = p') ∨ (j ≠ pi ∧ c.parts[j]? = some q ∧ slice F' q.pOff q.pSize = slice c.F q.pOff q.pSize) :=
  (getElem?_set_cases hq).imp_right fun ⟨hj, hq⟩ => ⟨hj, hq, L.other_window j q hj hq F' hOut⟩

theorem Good.write_cases {H : Bytes → Bytes} {c : Cont} (hG : Good H c) (mac : Bytes → Bytes → Bytes) (cm : Option CmacScheme)
    (pi : Nat) (data : Bytes) (n : Nat) (c' : Cont) (hH : ∀ x, (H x).length = 0x20) (hmac : ∀ k x, (mac k x).length = 0x10)
    (h : lv4Write H mac cm c pi data = .ok (n, c')) :
    ∃ p, c.parts[pi]? = some p ∧ n = (writeClamp p data).length ∧
      ((writeClamp p data = [] ∧ c' = c) ∨
       (writeClamp p data ≠ [] ∧ ∃ s pd F' hdr, Lv4Wrote H mac cm c pi p data n c' s pd F' hdr ∧ Lv4Regular c p s pd F')) := by
  obtain ⟨p, hp⟩ := lv4Write_some H mac cm c pi data n c' h
  have L := (hG.2 pi p hp).lay
  refine ⟨p, hp, (lv4Write_inv H mac cm c pi p hp data n c' h).1, ?_⟩
  by_cases hne : writeClamp p data = []
  · exact .inl ⟨hne, lv4Write_empty_inv H mac cm c pi p hp data n c' hne h⟩
  · exact .inr ⟨hne, lv4Write_regular H mac cm c pi p hp data n c' hH hmac (hG.1.header_length (Nat.le_trans L.tOff (Nat.le_trans (Nat.le_add_right _ _) L.tEnd))) (hG.2 pi p hp) hne h⟩

theorem lv4Write_good (H : Bytes → Bytes) (mac : Bytes → Bytes → Bytes) (cm : Option CmacScheme) (c : Cont) (pi : Nat)
    (data : Bytes) (n : Nat) (c' : Cont)
    (hH : ∀ x, (H x).length = 0x20) (hmac : ∀ k x, (mac k x).length = 0x10)
    (hG : Good H c) (h : lv4Write H mac cm c pi data = .ok (n, c')) : Good H c' := by
  obtain ⟨p, hp, -, ⟨-, rfl⟩ | ⟨-, s, pd, F', hdr, W, G⟩⟩ := hG.write_cases mac cm pi data n c' hH hmac h
  · exact hG
  obtain ⟨hs, hP⟩ := hG
  have ok := hP pi p hp
  refine ⟨lv4Write_synced H mac cm c pi p hp data n c' hH hmac hs ok h, ?_⟩
  obtain rfl := W.state
  have R := W.spec
  have L := ok.lay
  have hplace := place_set c.parts pi p (p.wrote s n) hp rfl
  intro j q hq
  rcases parts_after_write L F' G.outside hq with ⟨rfl, rfl⟩ | ⟨hj, hq, hw⟩
  · refine { geom := ?_, tabs := ok.tabs, desc := ok.desc.of_master R.mlen (R.mshape ok.desc.hashLen),
             lay := L.congr rfl rfl G.flen rfl hplace }
    show GeomP (slice F' p.pOff p.pSize) p.tree s.master
    rw [G.window]; exact ok.geom.of_length R.win.bytes_length R.mlen
  · have okq := hP j q hq
    refine { okq with geom := ?_, lay := okq.lay.congr rfl rfl G.flen rfl hplace }
    show GeomP (slice F' q.pOff q.pSize) q.tree q.master
    rw [hw]; exact okq.geom

theorem good_cache_only (H : Bytes → Bytes) (c : Cont) (pi : Nat) (p : PartSt) (hp : c.parts[pi]? = some p)
    (ca : Caches) (sk : Nat) (hG : Good H c) :
    Good H { c with parts := c.parts.set pi { p with caches := ca, seek := sk } } := by
  obtain ⟨hs, hP⟩ := hG
  have hplt : pi < c.parts.length := (List.getElem?_eq_some_iff.mp hp).1
  have hmap : (c.parts.set pi { p with caches := ca, seek := sk }).map PartSt.static = c.parts.map PartSt.static := by
    apply List.ext_getElem?
    intro j
    rw [List.getElem?_map, List.getElem?_map]
    by_cases hj : pi = j
    · subst hj; rw [List.getElem?_set_self hplt, hp]; rfl
    · rw [List.getElem?_set_ne hj]
  constructor
  · obtain ⟨c0, ho, hst⟩ := hs
    refine ⟨c0, ho, ?_⟩
    rw [hst]
    simp only [Cont.static, hmap]
  · have hplace := place_set c.parts pi p { p with caches := ca, seek := sk } hp rfl
    intro j q hq
    rcases getElem?_set_cases hq with ⟨rfl, rfl⟩ | ⟨-, hq⟩
    · have ok := hP j p hp
      exact { ok with lay := ok.lay.congr rfl rfl rfl rfl hplace }
    · have ok := hP j q hq
      exact { ok with lay := ok.lay.congr rfl rfl rfl rfl hplace }

/-- the operations of a session on the verified level-4 views of a container -/
inductive Lv4Op
  | seek (pi : Nat) (off : Int) (whence : Nat)
  | read (pi : Nat) (size : Int)
  | write (pi : Nat) (data : Bytes)

def lv4Step (H : Bytes → Bytes) (mac : Bytes → Bytes → Bytes) (cm : Option CmacScheme) (c : Cont) : Lv4Op → Except Err Cont
  | .seek pi off wh => (contSeek c pi off wh).map (·.2)
  | .read pi size => (contRead H c pi size).map (·.2)
  | .write pi data => (lv4Write H mac cm c pi data).map (·.2)

/-- a session: the operations in order, stopping at the first error (exception) -/
def lv4Run (H : Bytes → Bytes) (mac : Bytes → Bytes → Bytes) (cm : Option CmacScheme) : Cont → List Lv4Op → Except Err Cont
  | c, [] => .ok c
  | c, op :: ops => match lv4Step H mac cm c op with
    | .error e => .error e
    | .ok c' => lv4Run H mac cm c' ops

theorem lv4Run_invariant (H : Bytes → Bytes) (mac : Bytes → Bytes → Bytes) (cm : Option CmacScheme) (I : Cont → Prop)
    (hstep : ∀ c c' op, I c → lv4Step H mac cm c op = .ok c' → I c') (ops : List Lv4Op) (c c' : Cont) (hI : I c)
    (h : lv4Run H mac cm c ops = .ok c') : I c' := by
  fun_induction lv4Run H mac cm c ops
  case case1 => cases h; exact hI
  case case2 => exact nomatch h
  case case3 c op ops c2 hs ih => exact ih (hstep c c2 op hI hs) h

theorem lv4Step_good (H : Bytes → Bytes) (mac : Bytes → Bytes → Bytes) (cm : Option CmacScheme) (c c' : Cont) (op : Lv4Op)
    (hH : ∀ x, (H x).length = 0x20) (hmac : ∀ k x, (mac k x).length = 0x10)
    (hG : Good H c) (h : lv4Step H mac cm c op = .ok c') : Good H c' := by
  cases op with
  | seek pi off wh =>
    obtain ⟨n, hs⟩ := map_snd_ok _ _ h
    obtain ⟨p, hp, rfl⟩ := contSeek_inv c pi off wh n c' hs
    exact good_cache_only H c pi p hp p.caches _ hG
  | read pi size =>
    obtain ⟨d, hs⟩ := map_snd_ok _ _ h
    obtain ⟨p, ca, hp, -, rfl⟩ := contRead_inv H c pi size d c' hs
    exact good_cache_only H c pi p hp _ _ hG
  | write pi data => obtain ⟨n, hs⟩ := map_snd_ok _ _ h; exact lv4Write_good H mac cm c pi data n c' hH hmac hG hs

theorem lv4Run_good (H : Bytes → Bytes) (mac : Bytes → Bytes → Bytes) (cm : Option CmacScheme)
    (hH : ∀ x, (H x).length = 0x20) (hmac : ∀ k x, (mac k x).length = 0x10) :
    ∀ (ops : List Lv4Op) (c c' : Cont), Good H c → lv4Run H mac cm c ops = .ok c' → Good H c' :=
  lv4Run_invariant H mac cm (Good H) fun c c' op => lv4Step_good H mac cm c c' op hH hmac

/-- what the verified level-4 reader of partition `p` shows for the file `F` -/
def PartSt.view (H : Bytes → Bytes) (p : PartSt) (F : Bytes) : Bytes :=
  verifiedView H (Lof (p.P F) p.tree) p.bsOf p.master

/-- the session invariant with sound caches over a fully verifying tree (`Good` and these two conditions: the `3` stands for
    nothing else) -/
def Good3 (H : Bytes → Bytes) (c : Cont) : Prop :=
  Good H c ∧ ContOK H c ∧ ∀ (pi : Nat) (p : PartSt), c.parts[pi]? = some p → AllValid H p.tree p.master (p.P c.F)

theorem lv4Write_good3 (H : Bytes → Bytes) (mac : Bytes → Bytes → Bytes) (cm : Option CmacScheme) (c : Cont) (pi : Nat)
    (data : Bytes) (n : Nat) (c' : Cont)
    (hH : ∀ x, (H x).length = 0x20) (hmac : ∀ k x, (mac k x).length = 0x10) (hnz : ¬ ZeroHash H)
    (hG : Good3 H c) (h : lv4Write H mac cm c pi data = .ok (n, c')) :
    Good3 H c' ∧ ∃ p p', c.parts[pi]? = some p ∧ c'.parts[pi]? = some p' ∧
      n = (writeClamp p data).length ∧ p'.seek = p.seek + n ∧
      p'.view H c'.F = (if writeClamp p data = [] then p.view H c.F else overlay (p.view H c.F) p.seek (writeClamp p data)) ∧
      ∀ j q, j ≠ pi → c.parts[j]? = some q → c'.parts[j]? = some q ∧ q.view H c'.F = q.view H c.F := by
  obtain ⟨hgood, hcok, hval⟩ := hG
  have hgood' := lv4Write_good H mac cm c pi data n c' hH hmac hgood h
  obtain ⟨p, hp, hn, ⟨hne, rfl⟩ | ⟨hne, s, pd, F', hdr, W, G⟩⟩ := hgood.write_cases mac cm pi data n c' hH hmac h
  · exact ⟨⟨hgood, hcok, hval⟩, p, p, hp, hp, hn, by rw [hn, hne]; rfl, by rw [if_pos hne], fun j q _ hq => ⟨hq, rfl⟩⟩
  have g := (hgood.2 pi p hp).geom
  have L := (hgood.2 pi p hp).lay
  have hplt : pi < c.parts.length := (List.getElem?_eq_some_iff.mp hp).1
  obtain rfl := W.state
  obtain ⟨v1, v2, v3⟩ := writeData_sound H p.tree hH hnz p.seek (writeClamp p data) (p.writeStart c.F)
    s g hne (writeClamp_fits p data hne) (hval pi p hp) (hcok p (List.mem_of_getElem? hp)) W.wrote
  have hp' : (c.parts.set pi (p.wrote s n))[pi]? = some (p.wrote s n) := List.getElem?_set_self hplt
  refine ⟨⟨hgood', ?_, ?_⟩, p, _, hp, hp', hn, rfl, ?_, fun j q hj hq => ⟨by rw [List.getElem?_set_ne (Ne.symm hj)]; exact hq, ?_⟩⟩
  · intro q hq
    obtain ⟨j, hj⟩ := List.mem_iff_getElem?.mp hq
    rcases parts_after_write L F' G.outside hj with ⟨rfl, rfl⟩ | ⟨-, hj, hw⟩
    · show CacheOK H (levelRead (slice F' p.pOff p.pSize) p.tree) p.bsOf s.master s.caches
      rw [G.window]; exact v2
    · show CacheOK H (levelRead (slice F' q.pOff q.pSize) q.tree) q.bsOf q.master q.caches
      rw [hw]; exact hcok q (List.mem_of_getElem? hj)
  · intro j q hq
    rcases parts_after_write L F' G.outside hq with ⟨rfl, rfl⟩ | ⟨-, hq, hw⟩
    · show AllValid H p.tree s.master (slice F' p.pOff p.pSize)
      rw [G.window]; exact v1
    · show AllValid H q.tree q.master (slice F' q.pOff q.pSize)
      rw [hw]; exact hval j q hq
  · rw [if_neg hne]
    show verifiedView H (Lof (slice F' p.pOff p.pSize) p.tree) p.bsOf s.master = _
    rw [G.window]; exact v3
  · show verifiedView H (Lof (slice F' q.pOff q.pSize) q.tree) q.bsOf q.master = _
    rw [L.other_window j q hj hq F' G.outside]; rfl

theorem view_levelBytes (H : Bytes → Bytes) (p : PartSt) (F : Bytes) :
    verifiedView H (levelBytes (p.P F) p.tree) p.bsOf p.master = p.view H F :=
  (verifiedView_congr H p.bsOf p.master _ _ fun j hj => Lof_lt _ p.tree j (by omega)).symm

theorem good3_cache_only (H : Bytes → Bytes) (c : Cont) (pi : Nat) (p : PartSt) (hp : c.parts[pi]? = some p)
    (ca : Caches) (sk : Nat) (hG : Good3 H c)
    (hck : ContOK H { c with parts := c.parts.set pi { p with caches := ca, seek := sk } }) :
    Good3 H { c with parts := c.parts.set pi { p with caches := ca, seek := sk } } := by
  obtain ⟨hgood, _, hval⟩ := hG
  refine ⟨good_cache_only H c pi p hp ca sk hgood, hck, ?_⟩
  intro j q hq
  rcases getElem?_set_cases hq with ⟨rfl, rfl⟩ | ⟨-, hq⟩
  · exact hval j p hp
  · exact hval j q hq

theorem contRead_good3 (H : Bytes → Bytes) (c : Cont) (pi : Nat) (size : Int) (d : Bytes) (c' : Cont)
    (hG : Good3 H c) (h : contRead H c pi size = .ok (d, c')) :
    Good3 H c' ∧ c'.F = c.F ∧ ∃ p, c.parts[pi]? = some p ∧
      d = slice (p.view H c.F) p.seek (readCount p.ivfc.lv4.size p.seek size) ∧
      ∃ ca, c'.parts = c.parts.set pi { p with caches := ca, seek := p.seek + d.length } := by
  obtain ⟨hF, hck, p, hp, hd⟩ := contRead_spec H c hG.2.1 pi size d c' h
  have hd' := hd (hG.1.2 pi p hp).geom.treeWF
  rw [view_levelBytes] at hd'
  obtain ⟨p_, ca, hp_, -, rfl⟩ := contRead_inv H c pi size d c' h
  obtain rfl : p = p_ := Option.some.inj (hp.symm.trans hp_)
  exact ⟨good3_cache_only H c pi p hp ca _ hG hck, hF, p, hp, hd', ca, rfl⟩

theorem contSeek_good3 (H : Bytes → Bytes) (c : Cont) (pi : Nat) (off : Int) (wh n : Nat) (c' : Cont)
    (hG : Good3 H c) (h : contSeek c pi off wh = .ok (n, c')) :
    Good3 H c' ∧ c'.F = c.F ∧ ∃ p, c.parts[pi]? = some p ∧ c'.parts = c.parts.set pi { p with seek := n } := by
  obtain ⟨hF, hck⟩ := contSeek_spec H c hG.2.1 pi off wh n c' h
  obtain ⟨p, hp, rfl⟩ := contSeek_inv c pi off wh n c' h
  exact ⟨good3_cache_only H c pi p hp p.caches _ hG hck, hF, p, hp, rfl⟩

theorem lv4Step_good3 (H : Bytes → Bytes) (mac : Bytes → Bytes → Bytes) (cm : Option CmacScheme) (c c' : Cont) (op : Lv4Op)
    (hH : ∀ x, (H x).length = 0x20) (hmac : ∀ k x, (mac k x).length = 0x10) (hnz : ¬ ZeroHash H)
    (hG : Good3 H c) (h : lv4Step H mac cm c op = .ok c') : Good3 H c' := by
  cases op with
  | seek pi off wh => obtain ⟨n, hs⟩ := map_snd_ok _ _ h; exact (contSeek_good3 H c pi off wh n c' hG hs).1
  | read pi size => obtain ⟨d, hs⟩ := map_snd_ok _ _ h; exact (contRead_good3 H c pi size d c' hG hs).1
  | write pi data => obtain ⟨n, hs⟩ := map_snd_ok _ _ h; exact (lv4Write_good3 H mac cm c pi data n c' hH hmac hnz hG hs).1

theorem lv4Run_good3 (H : Bytes → Bytes) (mac : Bytes → Bytes → Bytes) (cm : Option CmacScheme)
    (hH : ∀ x, (H x).length = 0x20) (hmac : ∀ k x, (mac k x).length = 0x10) (hnz : ¬ ZeroHash H) :
    ∀ (ops : List Lv4Op) (c c' : Cont), Good3 H c → lv4Run H mac cm c ops = .ok c' → Good3 H c' :=
  lv4Run_invariant H mac cm (Good3 H) fun c c' op => lv4Step_good3 H mac cm c c' op hH hmac hnz

/-! The decidable side conditions, which the driver evaluates on every generated image; each is the decidable form of a proposition
  the theorems are proved from, and the bridge stands right after the proposition:

      geomOK          GeomP         geomP_of_b
      tablesApartB    TablesApart   tablesApart_of_b
      descWFB         DescWF        descWF_of_b
      reopenLayoutB   DisaLayout    disaLayout_of_b
      allValidB       AllValid      allValid_of_b

  `regularB` asks the first four of every partition: they make `PartOK`, and an opened container `Good`. -/

theorem partOK_of_b (c : Cont) (pi : Nat) (p : PartSt) (hg : geomOK (p.P c.F) p.tree p.master = true)
    (hta : tablesApartB p.dpfs p.tree = true) (hwf : descWFB ⟨p.difi, p.ivfc, p.dpfs, p.master⟩ p.descSize = true)
    (hL : reopenLayoutB c pi p = true) : PartOK c pi p :=
  ⟨geomP_of_b _ _ _ hg, tablesApart_of_b _ _ hta, descWF_of_b _ _ hwf, disaLayout_of_b _ _ _ hL⟩

theorem good_of_regular (H : Bytes → Bytes) (kind : Kind) (F : Bytes) (w : Bool) (c : Cont)
    (ho : openCont H kind F w = .ok c) (hr : regularB c = true) : Good H c := by
  refine ⟨open_synced H kind F w c ho, ?_⟩
  intro pi p hp
  have hlt : pi < c.parts.length := (List.getElem?_eq_some_iff.mp hp).1
  unfold regularB at hr
  simp only [List.all_eq_true, List.mem_range] at hr
  have := hr pi hlt
  rw [hp] at this
  simp only [Bool.and_eq_true] at this
  obtain ⟨⟨⟨a, b⟩, c1⟩, d⟩ := this
  exact partOK_of_b c pi p a b c1 d

theorem good3_of_open (H : Bytes → Bytes) (kind : Kind) (F : Bytes) (w : Bool) (c : Cont)
    (ho : openCont H kind F w = .ok c) (hr : regularB c = true)
    (hv : c.parts.all (fun p => allValidB H p.tree p.master (p.P c.F)) = true) : Good3 H c := by
  refine ⟨good_of_regular H kind F w c ho hr, ?_, ?_⟩
  · exact openCont_ok H kind F w c ho
  · intro pi p hp
    simp only [List.all_eq_true] at hv
    exact allValid_of_b H _ _ _ (hv p (List.mem_of_getElem? hp))

end Save
end Pyctr
