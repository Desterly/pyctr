/-
  "The in-memory state is what opening the current file gives" (`Synced`), read partition by partition (`synced_iff`), and what keeps
  it true when the file changes: the descriptor of one partition replaced, the header's hash field set to the hash of the new table,
  everything else that `open` reads left alone (`Synced.replace_desc`) — a statement about files, not about writes.
-/
import Proofs.SaveOpen
namespace Pyctr
theorem getElem?_set_cases {α : Type} {l : List α} {i j : Nat} {x y : α} (h : (l.set i x)[j]? = some y) :
    (j = i ∧ y = x) ∨ (j ≠ i ∧ l[j]? = some y) := by
  rw [List.getElem?_set] at h
  split at h
  · rename_i hj
    split at h
    · exact .inl ⟨hj.symm, (Option.some.inj h).symm⟩
    · cases h
  · rename_i hj
    exact .inr ⟨Ne.symm hj, h⟩

namespace Save
variable (H : Bytes → Bytes)

/-- everything of a partition state that opening the file determines (not: verification caches, reader position) -/
def PartSt.static (p : PartSt) :=
  (p.index, p.descOff, p.descSize, p.pOff, p.pSize, p.difi, p.ivfc, p.dpfs, p.master, p.dp)

def Cont.static (c : Cont) := (c.kind, c.header, c.tableOff, c.tableSize, c.parts.map PartSt.static)

/-- the in-memory state is what re-opening the current file gives -/
def Synced (H : Bytes → Bytes) (c : Cont) : Prop :=
  ∃ c0, openCont H c.kind c.F c.writable = .ok c0 ∧ c0.static = c.static

theorem open_synced (kind : Kind) (F : Bytes) (w : Bool) (c : Cont) (h : openCont H kind F w = .ok c) : Synced H c := by
  obtain ⟨-, -, ps, -, rfl⟩ := (openCont_ok_iff H kind F w c rfl rfl).mp h
  exact ⟨_, h, rfl⟩

/-- `q` has the static part of what `loadPartition F j dO pd pO pS` gives -/
structure LoadedAs (F : Bytes) (j dO : Nat) (pd : Bytes) (pO pS : Nat) (q : PartSt) : Prop where
  index : q.index = j
  descOff : q.descOff = dO
  descSize : q.descSize = pd.length
  pOff : q.pOff = pO
  pSize : q.pSize = pS
  dp : q.dp = mkDp (slice F q.pOff q.pSize) q.dpfs q.difi.selector
  desc : loadPartdesc pd = .ok ⟨q.difi, q.ivfc, q.dpfs, q.master⟩

theorem loadPartition_static (F : Bytes) (j dO : Nat) (pd : Bytes) (pO pS : Nat) (q0 q : PartSt)
    (h : loadPartition F j dO pd pO pS = .ok q0) (hs : q0.static = q.static) : LoadedAs F j dO pd pO pS q := by
  obtain ⟨d0, hd0, rfl⟩ := loadPartition_inv _ _ _ _ _ _ _ h
  -- `static` is a tuple of ten: index, descOff, descSize, pOff, pSize, difi, ivfc, dpfs, master, dp
  simp only [PartSt.static, Prod.mk.injEq] at hs
  obtain ⟨q1, q2, q3, q4, q5, q6, q7, q8, q9, q10⟩ := hs
  exact
    { index := q1.symm, descOff := q2.symm, descSize := q3.symm, pOff := q4.symm, pSize := q5.symm
      dp := by rw [← q10, ← q4, ← q5, ← q8, ← q6]
      desc := by rw [hd0, ← q6, ← q7, ← q8, ← q9] }

theorem hdrView_diff_parts (h : Bytes) (i : Nat) (e : PartEntry) (he : (hdrView .diff h).parts[i]? = some e) :
    e.descOff = 0 ∧ e.descSize = (hdrView .diff h).tableSize := by
  cases i with
  | zero => simp only [hdrView, List.getElem?_cons_zero, Option.some.injEq] at he; subst he; exact ⟨rfl, rfl⟩
  | succ i => simp [hdrView] at he

structure SyncedSpec (H : Bytes → Bytes) (c : Cont) : Prop where
  header : slice c.F 0x100 0x100 = c.header
  tableOff : (hdrView c.kind c.header).tableOff = c.tableOff
  tableSize : (hdrView c.kind c.header).tableSize = c.tableSize
  magic : slice c.header 0 8 = magicOf c.kind
  tableHash : H (slice c.F c.tableOff c.tableSize) = slice c.header (hdrView c.kind c.header).hoff 0x20
  partsLen : c.parts.length = (hdrView c.kind c.header).parts.length
  parts : ∀ i e, (hdrView c.kind c.header).parts[i]? = some e → ∃ q q0, c.parts[i]? = some q ∧
    loadPartition c.F i e.descOff (slice (slice c.F c.tableOff c.tableSize) e.descOff e.descSize) e.pOff e.pSize = .ok q0 ∧
    q0.static = q.static

theorem synced_iff (c : Cont) : Synced H c ↔ SyncedSpec H c := by
  constructor
  · intro ⟨c0, ho, hst⟩
    obtain ⟨o1, o2, ps, o3, rfl⟩ := (openCont_ok_iff H c.kind c.F c.writable c0 rfl rfl).mp ho
    simp only [Cont.static, Prod.mk.injEq, true_and] at hst
    obtain ⟨sh, sto, sts, sparts⟩ := hst
    rw [sh] at o1 o2 o3 sto sts
    rw [sto, sts] at o2 o3
    obtain ⟨o3l, o3p⟩ := loadParts_inv _ _ _ _ _ o3
    have hl : ps.length = c.parts.length := by
      have := congrArg List.length sparts
      rwa [List.length_map, List.length_map] at this
    refine { header := sh, tableOff := sto, tableSize := sts, magic := o1, tableHash := o2, partsLen := by omega, parts := fun i e he => ?_ }
    -- the `i`-th state `open` loads against the `i`-th state held: `sparts` says their static parts agree
    have hi : i < ps.length := by rw [o3l]; exact (List.getElem?_eq_some_iff.mp he).1
    have hic : i < c.parts.length := by omega
    have hst : (ps.map PartSt.static)[i]? = (c.parts.map PartSt.static)[i]? := congrArg (·[i]?) sparts
    rw [List.getElem?_map, List.getElem?_map, List.getElem?_eq_getElem hi, List.getElem?_eq_getElem hic] at hst
    have hload := o3p i e _ he (List.getElem?_eq_getElem hi)
    rw [Nat.zero_add] at hload
    exact ⟨c.parts[i], ps[i], List.getElem?_eq_getElem hic, hload, Option.some.inj hst⟩
  · intro S
    have hl := S.partsLen
    obtain ⟨ps, hps, hpl, hall⟩ := loadParts_exists c.F (slice c.F c.tableOff c.tableSize)
      (fun i q0 => ∃ q, c.parts[i]? = some q ∧ q0.static = q.static) (hdrView c.kind c.header).parts 0 fun i e he => by
        obtain ⟨q, q0, a, b, d⟩ := S.parts i e he
        exact ⟨q0, by rw [Nat.zero_add]; exact b, q, by rw [Nat.zero_add]; exact a, d⟩
    refine ⟨⟨c.kind, c.F, c.header, c.tableOff, c.tableSize, ps, c.writable⟩, ?_, ?_⟩
    · rw [openCont_ok_iff H c.kind c.F c.writable _ S.header rfl, S.tableOff, S.tableSize]
      exact ⟨S.magic, S.tableHash, ps, hps, rfl⟩
    · simp only [Cont.static, Prod.mk.injEq, true_and]
      apply List.ext_getElem?
      intro i
      rw [List.getElem?_map, List.getElem?_map]
      by_cases hi : i < ps.length
      · obtain ⟨q, hq, hs⟩ := hall i _ (List.getElem?_eq_getElem hi)
        rw [Nat.zero_add] at hq
        rw [List.getElem?_eq_getElem hi, hq, Option.map_some, Option.map_some, hs]
      · rw [List.getElem?_eq_none (by omega), List.getElem?_eq_none (by omega)]

theorem Synced.header_length {H : Bytes → Bytes} {c : Cont} (hs : Synced H c) (hF : 0x200 ≤ c.F.length) : c.header.length = 0x100 := by
  rw [← ((synced_iff H c).mp hs).header, slice_length]; omega

theorem Synced.part {H : Bytes → Bytes} {c : Cont} (hs : Synced H c) (pi : Nat) (p : PartSt) (hp : c.parts[pi]? = some p) :
    ∃ e, (hdrView c.kind c.header).parts[pi]? = some e ∧
      LoadedAs c.F pi e.descOff (slice (slice c.F c.tableOff c.tableSize) e.descOff e.descSize) e.pOff e.pSize p := by
  have S := (synced_iff H c).mp hs
  have hplt : pi < c.parts.length := (List.getElem?_eq_some_iff.mp hp).1
  obtain ⟨e, he⟩ : ∃ e, (hdrView c.kind c.header).parts[pi]? = some e :=
    ⟨_, List.getElem?_eq_getElem (by rw [← S.partsLen]; exact hplt)⟩
  obtain ⟨p_, q0, hp_, hl0, hs0⟩ := S.parts pi e he
  obtain rfl : p = p_ := Option.some.inj (hp.symm.trans hp_)
  exact ⟨e, he, loadPartition_static _ _ _ _ _ _ _ _ hl0 hs0⟩

theorem Synced.diff_desc {H : Bytes → Bytes} {c : Cont} (hs : Synced H c) (hk : c.kind = .diff)
    (hT : c.tableOff + c.tableSize ≤ c.F.length) (pi : Nat) (p : PartSt) (hp : c.parts[pi]? = some p) :
    p.descOff = 0 ∧ p.descSize = c.tableSize := by
  obtain ⟨e, he, P⟩ := hs.part pi p hp
  have sts := ((synced_iff H c).mp hs).tableSize
  rw [hk] at he sts
  obtain ⟨e1, e2⟩ := hdrView_diff_parts _ _ _ he
  rw [P.descOff, P.descSize, e1, e2, sts, slice_length, slice_length]
  omega

/-- the layout facts the re-open theorem needs, for either container kind despite the name: header, table, partition windows in
    this order, descriptors and windows of different partitions apart (a DIFF container has one partition: `others` is vacuous
    there).  The model's `reopenLayoutB` is its decidable form (`disaLayout_of_b`) -/
structure DisaLayout (c : Cont) (pi : Nat) (p : PartSt) : Prop where
  tOff : 0x200 ≤ c.tableOff
  tEnd : c.tableOff + c.tableSize ≤ c.F.length
  dIn : p.descOff + p.descSize ≤ c.tableSize
  pLo : c.tableOff + c.tableSize ≤ p.pOff
  pIn : p.pOff ≤ c.F.length
  others : ∀ j q, j ≠ pi → c.parts[j]? = some q →
    (q.descOff + q.descSize ≤ p.descOff ∨ p.descOff + p.descSize ≤ q.descOff) ∧
    c.tableOff + c.tableSize ≤ q.pOff ∧ (q.pOff + q.pSize ≤ p.pOff ∨ p.pOff + p.pSize ≤ q.pOff)

theorem disaLayout_of_b (c : Cont) (pi : Nat) (p : PartSt) (h : reopenLayoutB c pi p = true) : DisaLayout c pi p := by
  unfold reopenLayoutB at h
  simp only [Bool.and_eq_true, decide_eq_true_eq, List.all_eq_true, List.mem_range, Bool.or_eq_true, beq_iff_eq, and_assoc] at h
  obtain ⟨h1, h2, h3, h4, h5, h6⟩ := h
  refine { tOff := h1, tEnd := h2, dIn := h3, pLo := h4, pIn := h5, others := ?_ }
  intro j q hj hq
  have hlt : j < c.parts.length := (List.getElem?_eq_some_iff.mp hq).1
  rcases h6 j hlt with h | h
  · exact absurd h hj
  · rw [hq] at h
    simp only [Bool.and_eq_true, decide_eq_true_eq] at h
    exact ⟨h.1.1, h.1.2, h.2⟩

/-- the four numbers of a partition state that the layout conditions speak of -/
def PartSt.place (p : PartSt) := (p.descOff, p.descSize, p.pOff, p.pSize)

theorem DisaLayout.congr {c c' : Cont} {j : Nat} {q q' : PartSt} (L : DisaLayout c j q)
    (hto : c'.tableOff = c.tableOff) (hts : c'.tableSize = c.tableSize) (hfl : c'.F.length = c.F.length)
    (hq : q'.place = q.place)
    (hparts : ∀ (i : Nat) (r' : PartSt), c'.parts[i]? = some r' → ∃ r : PartSt, c.parts[i]? = some r ∧ r'.place = r.place) :
    DisaLayout c' j q' := by
  simp only [PartSt.place, Prod.mk.injEq] at hq hparts
  obtain ⟨e1, e2, e3, e4⟩ := hq
  refine { tOff := by rw [hto]; exact L.tOff, tEnd := by rw [hto, hts, hfl]; exact L.tEnd, dIn := by rw [e1, e2, hts]; exact L.dIn,
           pLo := by rw [hto, hts, e3]; exact L.pLo, pIn := by rw [e3, hfl]; exact L.pIn, others := fun i r' hi hr' => ?_ }
  obtain ⟨r, hr, f1, f2, f3, f4⟩ := hparts i r' hr'
  rw [e1, e2, e3, e4, f1, f2, f3, f4, hto, hts]
  exact L.others i r hi hr

theorem place_set (parts : List PartSt) (pi : Nat) (p p' : PartSt) (hp : parts[pi]? = some p) (h : p'.place = p.place)
    (i : Nat) (r' : PartSt) (hr : (parts.set pi p')[i]? = some r') : ∃ r, parts[i]? = some r ∧ r'.place = r.place := by
  rcases getElem?_set_cases hr with ⟨rfl, rfl⟩ | ⟨-, hr⟩
  · exact ⟨p, hp, h⟩
  · exact ⟨r', hr, rfl⟩

theorem DisaLayout.other_window {c : Cont} {pi : Nat} {p : PartSt} (L : DisaLayout c pi p) (j : Nat) (q : PartSt) (hj : j ≠ pi)
    (hq : c.parts[j]? = some q) (F' : Bytes)
    (hOut : ∀ z, c.tableOff + c.tableSize ≤ z → (z < p.pOff ∨ p.pOff + p.pSize ≤ z) → F'[z]? = c.F[z]?) :
    slice F' q.pOff q.pSize = slice c.F q.pOff q.pSize := by
  have o := L.others j q hj hq
  exact slice_congr _ _ _ _ fun z hz1 hz2 => hOut z (by omega) (by omega)

/-- `n` may run past the end of the table -/
theorem descSlot_same (T pd : Bytes) (a n : Nat) (h : a + pd.length ≤ T.length) (hl : pd.length = (slice T a n).length) :
    slice (overlay T a pd) a n = pd := by
  rw [slice_clamp, overlay_length_inside _ _ _ h, ← slice_length, ← hl,
    slice_overlay_inside _ _ _ _ _ (Nat.le_refl _) (Nat.le_refl _), Nat.sub_self, slice_all _ _ (Nat.le_refl _)]

theorem descSlot_other (T pd : Bytes) (a b n : Nat) (h : a + pd.length ≤ T.length)
    (hd : b + (slice T b n).length ≤ a ∨ a + pd.length ≤ b) : slice (overlay T a pd) b n = slice T b n := by
  calc slice (overlay T a pd) b n = slice (overlay T a pd) b (slice T b n).length := by
        rw [slice_clamp, overlay_length_inside _ _ _ h, slice_length]
    _ = slice T b (slice T b n).length := slice_overlay_outside T a pd b _ hd (Or.inl (by omega))
    _ = slice T b n := by rw [slice_length]; exact (slice_clamp T b n).symm

theorem Synced.replace_desc {H : Bytes → Bytes} {c : Cont} (hs : Synced H c) (hH : ∀ x, (H x).length = 0x20) (pi : Nat)
    (p : PartSt) (hp : c.parts[pi]? = some p) (L : DisaLayout c pi p) (F' pd : Bytes) (m' : List Bytes) (ca : Caches) (sk : Nat)
    (hFl : F'.length = c.F.length)
    (hhdr : slice F' 0x100 0x100 = assign c.header (hdrView c.kind c.header).hoff (H (slice F' c.tableOff c.tableSize)))
    (hT : slice F' c.tableOff c.tableSize = overlay (slice c.F c.tableOff c.tableSize) p.descOff pd)
    (pdl : pd.length = p.descSize) (pdr : loadPartdesc pd = .ok ⟨p.difi, p.ivfc, p.dpfs, m'⟩)
    (hdp : mkDp (slice F' p.pOff p.pSize) p.dpfs p.difi.selector = p.dp)
    (hOut : ∀ z, c.tableOff + c.tableSize ≤ z → (z < p.pOff ∨ p.pOff + p.pSize ≤ z) → F'[z]? = c.F[z]?) :
    Synced H { c with F := F', header := slice F' 0x100 0x100,
                      parts := c.parts.set pi { p with master := m', caches := ca, seek := sk } } := by
  have S := (synced_iff H c).mp hs
  have hLd := L.dIn; have hLe := L.tEnd; have hLo := L.tOff
  have hhl := hs.header_length (by omega)
  have hplt : pi < c.parts.length := (List.getElem?_eq_some_iff.mp hp).1
  have hTl : (slice c.F c.tableOff c.tableSize).length = c.tableSize := by rw [slice_length]; omega
  obtain ⟨e, he, P⟩ := hs.part pi p hp
  obtain ⟨A1, A2, A3⟩ := hdrView_assign c.kind c.header _ hhl (hH (slice F' c.tableOff c.tableSize))
  rw [← hhdr] at A1 A2 A3
  refine (synced_iff H _).mpr
    { header := rfl, tableOff := ?_, tableSize := ?_, magic := A2.trans S.magic, tableHash := ?_, partsLen := ?_, parts := ?_ }
  · show (hdrView c.kind (slice F' 0x100 0x100)).tableOff = c.tableOff
    rw [A1, S.tableOff]
  · show (hdrView c.kind (slice F' 0x100 0x100)).tableSize = c.tableSize
    rw [A1, S.tableSize]
  · show H (slice F' c.tableOff c.tableSize) = slice (slice F' 0x100 0x100) (hdrView c.kind (slice F' 0x100 0x100)).hoff 0x20
    rw [A1, A3]
  · show (c.parts.set pi _).length = (hdrView c.kind (slice F' 0x100 0x100)).parts.length
    rw [List.length_set, A1]; exact S.partsLen
  · show ∀ i e', (hdrView c.kind (slice F' 0x100 0x100)).parts[i]? = some e' → ∃ q q0', (c.parts.set pi _)[i]? = some q ∧
      loadPartition F' i e'.descOff (slice (slice F' c.tableOff c.tableSize) e'.descOff e'.descSize) e'.pOff e'.pSize = .ok q0' ∧
        q0'.static = q.static
    rw [A1, hT]
    intro i e' he'
    by_cases hi : i = pi
    · -- the written partition: its slot holds the new descriptor
      subst hi
      obtain rfl : e = e' := Option.some.inj (he.symm.trans he')
      refine ⟨_, ⟨i, p.descOff, pd.length, p.pOff, p.pSize, p.difi, p.ivfc, p.dpfs, m', p.dp, Caches.empty, 0⟩,
        List.getElem?_set_self hplt, ?_, ?_⟩
      · rw [← P.descOff, ← P.pOff, ← P.pSize,
          descSlot_same _ pd _ _ (by rw [hTl, pdl]; omega) (by rw [pdl, P.descSize, P.descOff])]
        rw [loadPartition_ok _ _ _ _ _ _ _ pdr, hdp]
      · simp only [PartSt.static, P.index, pdl]
    · -- another partition: its slot and its window are as they were
      obtain ⟨q, q02, hq, hl2, hs2⟩ := S.parts i e' he'
      have Q := loadPartition_static _ _ _ _ _ _ _ _ hl2 hs2
      have oth1 := (L.others i _ hi hq).1
      rw [Q.descOff, Q.descSize] at oth1
      refine ⟨q, q02, by rw [List.getElem?_set_ne (Ne.symm hi)]; exact hq, ?_, hs2⟩
      rw [descSlot_other _ pd _ _ _ (by rw [hTl, pdl]; omega) (by rw [pdl]; exact oth1), ← hl2, ← Q.pOff, ← Q.pSize]
      unfold loadPartition
      rw [L.other_window i q hi hq F' hOut]

end Save
end Pyctr
