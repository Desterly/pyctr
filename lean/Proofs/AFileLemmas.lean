/-
  The abstract file in equations: `read` and `write` without their case splits; `seekPos`, where a seek lands, which is all that
  the seeks of the models differ in; `mapContent`, a file seen through a length-preserving map of its content (the abstraction of
  every decrypting wrapper).
-/
import PyctrModel.Base.AFile
import Proofs.BytesLemmas
namespace Pyctr

theorem block_end {i L : Nat} (hL : L % 16 = 0) (hi : i < L) : i / 16 * 16 + 16 ≤ L := by omega

theorem pad16 (x : Nat) : (x + (16 - x % 16) % 16) % 16 = 0 := by omega

namespace AFile
theorem read_eq (f : AFile) (n : Int) :
    f.read n = (slice f.content f.pos (f.readLen n), { f with pos := f.pos + f.readLen n }) := rfl
theorem read_snd_fixed (f : AFile) (n : Int) : (f.read n).2.fixed = f.fixed := rfl
theorem read_snd_clamp (f : AFile) (n : Int) : (f.read n).2.clamp = f.clamp := rfl

theorem readLen_eq (f : AFile) (n : Int) :
    f.readLen n = if n < 0 then f.content.length - f.pos else min n.toNat (f.content.length - f.pos) := rfl

theorem readLen_le (f : AFile) (n : Int) : f.readLen n ≤ f.content.length - f.pos := by
  rw [readLen_eq]; split
  · exact Nat.le_refl _
  · exact Nat.min_le_right ..

theorem readLen_past (f : AFile) (n : Int) (h : f.content.length ≤ f.pos) : f.readLen n = 0 :=
  Nat.le_zero.mp (Nat.le_trans (readLen_le f n) (Nat.le_of_eq (Nat.sub_eq_zero_of_le h)))

theorem readLen_natCast (f : AFile) (k : Nat) : f.readLen (k : Int) = min k (f.content.length - f.pos) := by
  rw [readLen_eq, if_neg (by omega), Int.toNat_natCast]

theorem read_natCast (f : AFile) (k : Nat) : f.read (k : Int) =
    (slice f.content f.pos (min k (f.content.length - f.pos)), { f with pos := f.pos + min k (f.content.length - f.pos) }) := by
  rw [read_eq, readLen_natCast]

theorem read_fst_length (f : AFile) (n : Int) : (f.read n).1.length = f.readLen n := by
  rw [read_eq, slice_length]; exact Nat.min_eq_left (readLen_le f n)

/-- `write` with its empty case confined to the content: the count and the position need no case split -/
theorem write_eq (f : AFile) (w : Bytes) : f.write w =
    ((f.writeTake w).length,
      { f with content := if (f.writeTake w).isEmpty then f.content else overlay f.content f.pos (f.writeTake w),
               pos := f.pos + (f.writeTake w).length }) := by
  unfold write
  dsimp only
  split
  · rename_i he; rw [List.isEmpty_iff.mp he]; rfl
  · rfl

theorem write_fst (f : AFile) (w : Bytes) : (f.write w).1 = (f.writeTake w).length := by rw [write_eq]
theorem write_snd_pos (f : AFile) (w : Bytes) : (f.write w).2.pos = f.pos + (f.writeTake w).length := by rw [write_eq]
theorem write_snd_fixed (f : AFile) (w : Bytes) : (f.write w).2.fixed = f.fixed := by rw [write_eq]

theorem write_of_le (f : AFile) (w : Bytes) (h : f.pos ≤ f.content.length) : f.write w =
    ((f.writeTake w).length,
      { f with content := overlay f.content f.pos (f.writeTake w), pos := f.pos + (f.writeTake w).length }) := by
  rw [write_eq]
  split
  · rename_i he; rw [List.isEmpty_iff.mp he, overlay_nil _ _ h]
  · rfl

theorem writeTake_past (f : AFile) (w : Bytes) (hf : f.fixed = true) (h : f.content.length ≤ f.pos) :
    f.writeTake w = [] := by
  rw [writeTake, if_pos hf, size, Nat.sub_eq_zero_of_le h, List.take_zero]

theorem write_past (f : AFile) (w : Bytes) (hf : f.fixed = true) (h : f.content.length ≤ f.pos) :
    f.write w = (0, f) := by
  rw [write_eq, writeTake_past f w hf h]; rfl

theorem writeTake_of_fit (f : AFile) (w : Bytes) (h : f.pos + w.length ≤ f.content.length) : f.writeTake w = w := by
  unfold writeTake size; split
  · exact List.take_of_length_le (by omega)
  · rfl

theorem writeTake_length_le (f : AFile) (w : Bytes) : (f.writeTake w).length ≤ w.length := by
  unfold writeTake; split
  · exact List.length_take_le' ..
  · exact Nat.le_refl _

theorem writeTake_short (f : AFile) (w : Bytes) (h : (f.writeTake w).length < w.length) :
    f.fixed = true ∧ f.content.length ≤ f.pos + (f.writeTake w).length := by
  by_cases hf : f.fixed = true
  · rw [writeTake, if_pos hf, size, List.length_take] at h ⊢; exact ⟨hf, by omega⟩
  · rw [writeTake, if_neg hf] at h; omega

theorem writeTake_length_fixed (f : AFile) (w : Bytes) (hf : f.fixed = true) :
    (f.writeTake w).length ≤ f.content.length - f.pos := by
  rw [writeTake, if_pos hf, size, List.length_take]; exact Nat.min_le_left ..

theorem write_length_fixed (f : AFile) (w : Bytes) (hf : f.fixed = true) :
    (f.write w).2.content.length = f.content.length := by
  have := writeTake_length_fixed f w hf
  rw [write_eq]
  split
  · rfl
  · rename_i he
    have : (f.writeTake w).length ≠ 0 := fun h => he (List.isEmpty_iff.mpr (List.eq_nil_of_length_eq_zero h))
    rw [overlay_length]; omega

/-- where a `seek` lands: it looks at nothing but size, position and `clamp` -/
def seekPos (size pos : Nat) (clamp : Bool) (off wh : Int) : Except Err Nat :=
  if wh = 0 then
    if off < 0 then .error .valueError else .ok (if clamp then min off.toNat size else off.toNat)
  else if wh = 1 then .ok ((pos : Int) + off).toNat
  else if wh = 2 then .ok ((size : Int) + off).toNat
  else .error .valueError

/-- written out, so that a model seek that is literally this four-way `if` is an instance by unfolding -/
theorem seekPos_map {β : Type} (k : Nat → β) (size pos : Nat) (clamp : Bool) (off wh : Int) :
    (seekPos size pos clamp off wh).map k =
      if wh = 0 then
        if off < 0 then .error .valueError else .ok (k (if clamp then min off.toNat size else off.toNat))
      else if wh = 1 then .ok (k ((pos : Int) + off).toNat)
      else if wh = 2 then .ok (k ((size : Int) + off).toNat)
      else .error .valueError := by
  unfold seekPos
  rw [apply_ite (Except.map k), apply_ite (Except.map k), apply_ite (Except.map k), apply_ite (Except.map k)]
  rfl

theorem seek_eq (f : AFile) (off wh : Int) :
    f.seek off wh = (seekPos f.content.length f.pos f.clamp off wh).map fun p => (p, { f with pos := p }) :=
  (seekPos_map (fun p => (p, ({ f with pos := p } : AFile))) f.content.length f.pos f.clamp off wh).symm

theorem seek_content {f f' : AFile} {off wh : Int} {p : Nat} (h : f.seek off wh = .ok (p, f')) : f'.content = f.content := by
  rw [seek_eq] at h
  cases hq : seekPos f.content.length f.pos f.clamp off wh with
  | error e => rw [hq] at h; cases h
  | ok q => rw [hq] at h; cases h; rfl

theorem seek_set (f : AFile) (p : Nat) (hp : p ≤ f.content.length) : f.seek (p : Int) 0 = .ok (p, { f with pos := p }) := by
  rw [seek_eq, seekPos, if_pos rfl, if_neg (by omega), Int.toNat_natCast, Nat.min_eq_left hp, ite_self]; rfl

theorem seek_zero (f : AFile) : f.seek 0 0 = .ok (0, { f with pos := 0 }) := f.seek_set 0 (Nat.zero_le _)

theorem seek_cur (f : AFile) (off : Int) :
    f.seek off 1 = .ok (((f.pos : Int) + off).toNat, { f with pos := ((f.pos : Int) + off).toNat }) := rfl

def mapContent (g : Bytes → Bytes) (a : AFile) : AFile := { a with content := g a.content }

section
variable {g : Bytes → Bytes} (hg : ∀ c, (g c).length = c.length)
include hg

theorem seek_mapContent (a : AFile) (off wh : Int) :
    (mapContent g a).seek off wh = (a.seek off wh).map fun x => (x.1, mapContent g x.2) := by
  rw [seek_eq, seek_eq]
  simp only [mapContent, hg]
  cases seekPos a.content.length a.pos a.clamp off wh <;> rfl

theorem readLen_mapContent (a : AFile) (n : Int) : (mapContent g a).readLen n = a.readLen n := by
  simp only [readLen_eq, mapContent, hg]

theorem read_mapContent (a : AFile) (n : Int) :
    (mapContent g a).read n = (slice (g a.content) a.pos (a.readLen n), mapContent g (a.read n).2) := by
  rw [read_eq, readLen_mapContent hg]; rfl

theorem writeTake_mapContent (a : AFile) (w : Bytes) : (mapContent g a).writeTake w = a.writeTake w := by
  simp only [writeTake, size, mapContent, hg]
end

end AFile
end Pyctr
