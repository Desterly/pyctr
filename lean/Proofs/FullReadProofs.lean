/-
  C04: the fully-decrypted view.  The planning loop reads every 0x200-byte chunk of the aligned request exactly once, in order,
  from the piece (section, or raw pass-through chunk) that contains it (`plan_spec`); the assembly trims the first and the last
  piece, which makes a read a slice of one image (`fullRead_image`).  The work bound of a read (C19).
-/
import Proofs.NcchViews
namespace Pyctr

theorem drop_take_length_sub {α : Type} (d : List α) (b k : Nat) :
    (d.take (d.length - k)).drop b = (d.drop b).take ((d.drop b).length - k) := by
  rw [List.drop_take, List.length_drop, Nat.sub_right_comm]

theorem drop_take_append {α : Type} (A L : List α) (b k : Nat) (hb : b ≤ A.length) (hk : k ≤ L.length) :
    ((A ++ L).drop b).take (A.length + L.length - b - k) = A.drop b ++ L.take (L.length - k) := by
  have hl : (A.drop b).length = A.length - b := List.length_drop
  rw [List.drop_append_of_le_length hb, Nat.sub_add_comm hb, Nat.add_sub_assoc hk, ← hl, List.take_length_add_append]

theorem drop_take_flatten {α : Type} (P : List α) (M : List (List α)) (L : List α) (b k : Nat) (hb : b ≤ P.length)
    (hk : k ≤ L.length) :
    ((P :: (M ++ [L])).flatten.drop b).take ((P :: (M ++ [L])).flatten.length - b - k) =
      P.drop b ++ (M ++ [L.take (L.length - k)]).flatten := by
  simp only [List.flatten_cons, List.flatten_append, List.flatten_nil, List.append_nil]
  rw [← List.append_assoc P, List.length_append,
    drop_take_append (P ++ M.flatten) L b k (by rw [List.length_append]; exact Nat.le_trans hb (Nat.le_add_right ..)) hk,
    List.drop_append_of_le_length hb, List.append_assoc]

namespace Ncch

/-- an entry of `to_read`: `(key, offset inside the key's source, size)`; the key is `(section, 0)`, or `(secRaw, chunk offset)` for a
    pass-through chunk -/
abbrev Piece := (Nat × Nat) × Nat × Nat

/-- the chunks a list of planned pieces stands for: (key, offset inside the key's source), one per 0x200 bytes -/
def expand (l : List Piece) : List ((Nat × Nat) × Nat) :=
  l.flatMap fun p => (List.range (p.2.2 / 0x200)).map fun j => (p.1, p.2.1 + 0x200 * j)

/-- a chunk whose key occurred at an earlier chunk continues the chunk before it: same key, 0x200 further inside the key's
    source (true when the sections are disjoint intervals; raw chunks have pairwise different keys) -/
def Contig (s : State) : Prop :=
  ∀ c d, (chunkKey s c).1 = (chunkKey s (c + 0x200 * (d + 1))).1 →
    chunkKey s (c + 0x200 * (d + 1)) = ((chunkKey s (c + 0x200 * d)).1, (chunkKey s (c + 0x200 * d)).2 + 0x200)

theorem expand_append (a b : List Piece) : expand (a ++ b) = expand a ++ expand b := by
  simp [expand, List.flatMap_append]

theorem expand_single (p : Piece) : expand [p] = (List.range (p.2.2 / 0x200)).map fun j => (p.1, p.2.1 + 0x200 * j) := by
  simp [expand]

theorem mem_expand (l : List Piece) (p : Piece) (hp : p ∈ l) (j : Nat) (hj : j < p.2.2 / 0x200) :
    (p.1, p.2.1 + 0x200 * j) ∈ expand l :=
  List.mem_flatMap.mpr ⟨p, hp, List.mem_map.mpr ⟨j, List.mem_range.mpr hj, rfl⟩⟩

theorem expand_grow (init : List Piece) (k : Nat × Nat) (o sz : Nat) :
    expand (init ++ [(k, o, sz + 0x200)]) = expand (init ++ [(k, o, sz)]) ++ [(k, o + 0x200 * (sz / 0x200))] := by
  rw [expand_append, expand_append, expand_single, expand_single, List.append_assoc]
  rw [Nat.add_div_right _ (by decide : 0 < 0x200), List.range_succ, List.map_append]
  rfl

theorem addChunk_new (acc : List Piece) (key : Nat × Nat) (off : Nat) (h : ∀ q, q ∈ acc → q.1 ≠ key) :
    addChunk acc key off = acc ++ [(key, off, 0x200)] := by
  unfold addChunk
  rw [if_neg]
  rw [List.any_eq_true]
  rintro ⟨q, hq, hqk⟩
  exact h q hq (by simpa using hqk)

theorem addChunk_last (init : List Piece) (last : Piece) (key : Nat × Nat) (off : Nat) (hk : last.1 = key)
    (h : ∀ q, q ∈ init → q.1 ≠ key) :
    addChunk (init ++ [last]) key off = init ++ [(last.1, last.2.1, last.2.2 + 0x200)] := by
  unfold addChunk
  have hinit : init.map (fun x => if x.1 == key then (x.1, x.2.1, x.2.2 + 0x200) else x) = init.map id :=
    List.map_congr_left fun x hx => if_neg (by simpa using h x hx)
  rw [if_pos (by simp [hk]), List.map_append, hinit, List.map_id]
  simp [hk]

theorem keys_ne_last {init : List Piece} {last : Piece} (h : ((init ++ [last]).map (·.1)).Nodup) (q : Piece) (hq : q ∈ init) :
    q.1 ≠ last.1 := by
  rw [List.map_append, List.nodup_append] at h
  exact h.2.2 q.1 (List.mem_map.mpr ⟨q, hq, rfl⟩) last.1 (by simp)

/-- what `to_read` holds after the first `n` chunks from `a`.  `chunks` is the claim; `nodup` and `sizes` are what `addChunk` needs
    to extend it (the dict has one entry per key, and an entry grows by whole chunks); `last` follows from `chunks` and `sizes`
    (`PlanInv.of_chunks`) and is a field so that the assembly gets it without that argument -/
structure PlanInv (s : State) (a n : Nat) (acc : List Piece) : Prop where
  chunks : expand acc = (List.range n).map fun i => chunkKey s (a + 0x200 * i)
  nodup : (acc.map (·.1)).Nodup
  sizes : ∀ p, p ∈ acc → 0 < p.2.2 ∧ p.2.2 % 0x200 = 0
  last : 0 < n → ∃ init last, acc = init ++ [last] ∧ last.1 = (chunkKey s (a + 0x200 * (n - 1))).1

theorem last_chunk {s : State} {a n : Nat} {init : List Piece} {last : Piece}
    (hc : expand (init ++ [last]) = (List.range n).map fun i => chunkKey s (a + 0x200 * i))
    (hsz : 0 < last.2.2 ∧ last.2.2 % 0x200 = 0) :
    (chunkKey s (a + 0x200 * (n - 1))).1 = last.1 ∧ (chunkKey s (a + 0x200 * (n - 1))).2 + 0x200 = last.2.1 + last.2.2 := by
  have hm := Nat.mul_div_cancel' (Nat.dvd_of_mod_eq_zero hsz.2)
  have h := congrArg List.getLast? hc
  rw [expand_append, expand_single, List.getLast?_append, List.getLast?_map, List.getLast?_map, List.getLast?_range,
    List.getLast?_range] at h
  generalize last.2.2 / 0x200 = m at hm h
  have hm0 : m ≠ 0 := fun e => by rw [e, Nat.mul_zero] at hm; exact absurd hm.symm (Nat.ne_of_gt hsz.1)
  rw [if_neg hm0] at h
  split at h
  · cases h
  · rw [← show (last.1, last.2.1 + 0x200 * (m - 1)) = chunkKey s (a + 0x200 * (n - 1)) from Option.some.inj h, ← hm]
    exact ⟨rfl, by rw [Nat.add_assoc, ← Nat.mul_succ, Nat.succ_eq_add_one, Nat.sub_add_cancel (Nat.pos_of_ne_zero hm0)]⟩

theorem PlanInv.of_chunks {s : State} {a n : Nat} {acc : List Piece}
    (hc : expand acc = (List.range n).map fun i => chunkKey s (a + 0x200 * i)) (hnd : (acc.map (·.1)).Nodup)
    (hsz : ∀ p, p ∈ acc → 0 < p.2.2 ∧ p.2.2 % 0x200 = 0) : PlanInv s a n acc :=
  ⟨hc, hnd, hsz, fun hn => by
    rcases List.eq_nil_or_concat acc with rfl | ⟨init, last, rfl⟩
    · have := congrArg List.length hc
      rw [List.length_map, List.length_range] at this
      exact absurd this (Nat.ne_of_lt hn)
    · rw [List.concat_eq_append] at hc ⊢
      exact ⟨init, last, rfl, (last_chunk hc (hsz last (by simp))).1.symm⟩⟩

theorem PlanInv.chunks_pos {s : State} {a n : Nat} {acc : List Piece} (h : PlanInv s a n acc) {p : Piece} (hp : p ∈ acc) :
    0 < p.2.2 / 0x200 :=
  Nat.div_pos (Nat.le_of_dvd (h.sizes p hp).1 (Nat.dvd_of_mod_eq_zero (h.sizes p hp).2)) (by decide)

theorem PlanInv.chunk_of_piece {s : State} {a n : Nat} {acc : List Piece} (h : PlanInv s a n acc) {p : Piece} (hp : p ∈ acc)
    (k : Nat) (hk : k < p.2.2 / 0x200) : ∃ j, j < n ∧ chunkKey s (a + 0x200 * j) = (p.1, p.2.1 + 0x200 * k) := by
  have hx := mem_expand acc p hp k hk
  rw [h.chunks, List.mem_map] at hx
  obtain ⟨j, hj, hjx⟩ := hx
  exact ⟨j, List.mem_range.mp hj, hjx⟩

theorem planInv_step (s : State) (hc : Contig s) (a n : Nat) (acc : List Piece) (h : PlanInv s a n acc) :
    PlanInv s a (n + 1) (addChunk acc (chunkKey s (a + 0x200 * n)).1 (chunkKey s (a + 0x200 * n)).2) := by
  generalize hck : chunkKey s (a + 0x200 * n) = ck
  obtain ⟨key, off⟩ := ck
  have hchunks : ∀ acc', expand acc' = expand acc ++ [(key, off)] →
      expand acc' = (List.range (n + 1)).map fun i => chunkKey s (a + 0x200 * i) := fun acc' e => by
    rw [e, h.chunks, List.range_succ, List.map_append, List.map_singleton, hck]
  by_cases hany : ∃ p, p ∈ acc ∧ p.1 = key
  · -- the key was seen at some earlier chunk j, so chunk n continues chunk n - 1, where the last piece ends
    obtain ⟨p, hp, hpk⟩ := hany
    obtain ⟨j, hj, hjx⟩ := h.chunk_of_piece hp 0 (h.chunks_pos hp)
    obtain ⟨d, hd⟩ := Nat.exists_eq_add_of_lt hj  -- n = j + d + 1
    have hstep := hc (a + 0x200 * j) d
    rw [Nat.add_assoc, ← Nat.mul_add, Nat.add_assoc a, ← Nat.mul_add, show j + (d + 1) = n from hd.symm,
      show j + d = n - 1 by rw [hd, Nat.add_sub_cancel], hjx, hck] at hstep
    replace hstep := hstep hpk
    obtain ⟨init, last, rfl, -⟩ := h.last (Nat.zero_lt_of_lt hj)
    obtain ⟨hsz0, hsz⟩ := h.sizes last (by simp)
    obtain ⟨hl1, hl2⟩ := last_chunk h.chunks ⟨hsz0, hsz⟩
    rw [hl1, hl2, Prod.mk.injEq] at hstep
    obtain ⟨rfl, rfl⟩ := hstep
    rw [addChunk_last init last _ _ rfl (keys_ne_last h.nodup)]
    refine .of_chunks (hchunks _ ?_) ?_ (List.forall_mem_append.mpr ⟨fun q hq => h.sizes q (List.mem_append_left _ hq),
      List.forall_mem_singleton.mpr ⟨Nat.add_pos_right _ (by decide), (Nat.add_mod_right _ _).trans hsz⟩⟩)
    · rw [expand_grow, Nat.mul_div_cancel' (Nat.dvd_of_mod_eq_zero hsz)]
    · simpa only [List.map_append, List.map_singleton] using h.nodup
  · have hnone : ∀ q, q ∈ acc → q.1 ≠ key := fun q hq hqk => hany ⟨q, hq, hqk⟩
    rw [addChunk_new acc key off hnone]
    refine .of_chunks (hchunks _ ?_) ?_
      (List.forall_mem_append.mpr ⟨h.sizes, List.forall_mem_singleton.mpr ⟨Nat.succ_pos _, Nat.mod_self _⟩⟩)
    · rw [expand_append, expand_single]; simp
    · rw [List.map_append, List.nodup_append]
      refine ⟨h.nodup, by simp, fun x hx y hy => ?_⟩
      obtain ⟨q, hq, rfl⟩ := List.mem_map.mp hx
      rw [List.mem_singleton.mp hy]
      exact hnone q hq

theorem plan_succ (s : State) (a n : Nat) :
    plan s a (n + 1) = addChunk (plan s a n) (chunkKey s (a + 0x200 * n)).1 (chunkKey s (a + 0x200 * n)).2 := by
  unfold plan
  rw [List.range_succ, List.map_append, List.foldl_append]
  rfl

theorem plan_spec (s : State) (hc : Contig s) (a : Nat) (n : Nat) : PlanInv s a n (plan s a n) := by
  induction n with
  | zero => exact .of_chunks rfl List.nodup_nil fun _ h => nomatch h
  | succ n ih => rw [plan_succ]; exact planInv_step s hc a n _ ih

/-- `a ∈ sixList` (`six_mem`) as a disjunction, which `rcases` takes apart -/
def six (a : Nat) : Prop := a = secRomFS ∨ a = secExeFS ∨ a = secHeader ∨ a = secExtHeader ∨ a = secLogo ∨ a = secPlain

theorem six_ne_raw (a : Nat) (h : six a) : a ≠ secRaw := by
  rcases h with h | h | h | h | h | h <;> rw [h] <;> decide

/-- no chunk lies in two of the six classified regions -/
def RegionsDisjoint (s : State) : Prop :=
  ∀ c a b ra rb, six a → six b → a ≠ b → inRegion s c a = some ra → inRegion s c b = some rb → False

theorem inRegion_eq_some (s : State) (c sec : Nat) (r : Region) :
    inRegion s c sec = some r ↔ s.region? sec = some r ∧ r.offset ≤ c ∧ c < r.stop := by
  fun_cases inRegion s c sec
  case case1 r' hr h =>
    rw [hr, Option.some.injEq]; exact ⟨fun e => ⟨e, e ▸ h⟩, fun e => e.1⟩
  case case2 r' hr h =>
    rw [hr, Option.some.injEq]; exact ⟨nofun, fun e => absurd (e.1 ▸ e.2) h⟩
  case case3 hr =>
    rw [hr]; exact ⟨nofun, fun e => nomatch e.1⟩

theorem chunkKey_cases (s : State) (c : Nat) :
    (chunkKey s c = ((secRaw, c), c) ∧ ∀ a, six a → inRegion s c a = none) ∨
      ∃ sec r, six sec ∧ inRegion s c sec = some r ∧ chunkKey s c = ((sec, 0), c - r.offset) := by
  unfold chunkKey
  fun_cases classify s c  -- cases 1 to 6: the sections in the order the classifier tries them; case 7: none
  case case1 r h => exact .inr ⟨_, r, .inl rfl, h, rfl⟩
  case case2 r h => exact .inr ⟨_, r, .inr (.inl rfl), h, rfl⟩
  case case3 r h => exact .inr ⟨_, r, .inr (.inr (.inl rfl)), h, rfl⟩
  case case4 r h => exact .inr ⟨_, r, .inr (.inr (.inr (.inl rfl))), h, rfl⟩
  case case5 r h => exact .inr ⟨_, r, .inr (.inr (.inr (.inr (.inl rfl)))), h, rfl⟩
  case case6 r h => exact .inr ⟨_, r, .inr (.inr (.inr (.inr (.inr rfl)))), h, rfl⟩
  case case7 h1 h2 h3 h4 h5 h6 =>
    exact .inl ⟨rfl, fun a ha => by rcases ha with rfl | rfl | rfl | rfl | rfl | rfl <;> assumption⟩

theorem chunkKey_in (s : State) (hd : RegionsDisjoint s) (c sec : Nat) (r : Region) (hin : inRegion s c sec = some r)
    (h6 : six sec) : chunkKey s c = ((sec, 0), c - r.offset) := by
  rcases chunkKey_cases s c with ⟨_, hnone⟩ | ⟨sec', r', h6', hin', h⟩
  · rw [hnone sec h6] at hin; cases hin
  · by_cases hs : sec' = sec
    · subst hs
      rw [hin] at hin'
      cases hin'; exact h
    · exact absurd (hd c sec' sec r' r h6' h6 hs hin' hin) id

theorem six_mem (a : Nat) (h : six a) : a ∈ sixList := by
  rcases h with h | h | h | h | h | h <;> rw [h] <;> simp [sixList]

theorem regionsDisjoint_of_apart (s : State) (h : regionsApart s = true) : RegionsDisjoint s := by
  intro c a b ra rb ha hb hab hia hib
  unfold regionsApart at h
  rw [List.all_eq_true] at h
  have h1 := h a (six_mem a ha)
  rw [List.all_eq_true] at h1
  have h2 := h1 b (six_mem b hb)
  obtain ⟨ea, la, ua⟩ := (inRegion_eq_some s c a ra).mp hia
  obtain ⟨eb, lb, ub⟩ := (inRegion_eq_some s c b rb).mp hib
  rw [ea, eb] at h2
  have hne : (a == b) = false := by simpa using hab
  simp only [hne, Bool.false_or, decide_eq_true_eq] at h2
  omega

theorem contig_of_disjoint (s : State) (hd : RegionsDisjoint s) : Contig s := by
  intro c d hkey
  rcases chunkKey_cases s c with ⟨h, _⟩ | ⟨sec, r, h6, hin, h⟩
  · -- a raw chunk's key carries the chunk offset: no other chunk has it
    rw [h] at hkey
    rcases chunkKey_cases s (c + 0x200 * (d + 1)) with ⟨h', _⟩ | ⟨sec', r', h6', _, h'⟩
    · rw [h', Prod.mk.injEq] at hkey
      omega
    · rw [h'] at hkey
      exact absurd (congrArg Prod.fst hkey).symm (six_ne_raw sec' h6')
  · rw [h] at hkey
    obtain ⟨hr, hlo, hhi⟩ := (inRegion_eq_some s c sec r).mp hin
    -- the far chunk lies in the same section, hence in the same region, and so does the one before it
    have hfar : inRegion s (c + 0x200 * (d + 1)) sec = some r := by
      rcases chunkKey_cases s (c + 0x200 * (d + 1)) with ⟨h', _⟩ | ⟨sec', r', h6', hin', h'⟩
      · rw [h'] at hkey
        exact absurd (congrArg Prod.fst hkey) (six_ne_raw sec h6)
      · rw [h'] at hkey
        obtain rfl : sec = sec' := congrArg Prod.fst hkey
        rw [hin', ← ((inRegion_eq_some s _ sec r').mp hin').1, hr]
    obtain ⟨_, _, hhi'⟩ := (inRegion_eq_some s _ sec r).mp hfar
    have hmid : inRegion s (c + 0x200 * d) sec = some r :=
      (inRegion_eq_some s _ sec r).mpr ⟨hr, Nat.le_trans hlo (Nat.le_add_right ..), by omega⟩
    rw [chunkKey_in s hd _ sec r hfar h6, chunkKey_in s hd _ sec r hmid h6, Nat.mul_succ, ← Nat.add_assoc,
      Nat.sub_add_comm (Nat.le_trans hlo (Nat.le_add_right ..))]

/-- the crypto-flag rewrite of the header piece -/
def patchHdr (key : Nat × Nat) (d : Bytes) : Bytes := if key.1 == secHeader then setByte (setByte d 0x18B 0) 0x18F 4 else d

theorem pySlice_neg (d : Bytes) (k : Nat) (hk : 0 < k) : pySlice d 0 (-(k : Int)) = d.take (d.length - k) :=
  pySlice_dropLast d k hk

theorem setByte_length (d : Bytes) (i : Nat) (v : UInt8) : (setByte d i v).length = d.length := by
  unfold setByte; split <;> simp

theorem setByte_getElem?_ne (d : Bytes) (j : Nat) (v : UInt8) (i : Nat) (h : i ≠ j) : (setByte d j v)[i]? = d[i]? := by
  unfold setByte
  split
  · exact List.getElem?_set_ne (Ne.symm h)
  · rfl

theorem patchHdr_length (key : Nat × Nat) (d : Bytes) : (patchHdr key d).length = d.length := by
  unfold patchHdr
  split
  · rw [setByte_length, setByte_length]
  · rfl

theorem pieceBytes_eq (before cutEnd : Nat) (lastKey : Option (Nat × Nat)) (st : Bool) (key : Nat × Nat) (planned : Nat) (d : Bytes)
    (hc : 0 < cutEnd) (hd : d.length = planned) :
    pieceBytes before cutEnd lastKey st key planned d =
      (if some key == lastKey then
        (if st then (patchHdr key d).drop before else patchHdr key d).take
          ((if st then (patchHdr key d).drop before else patchHdr key d).length - (if cutEnd = 0x200 then 0 else cutEnd))
       else (if st then (patchHdr key d).drop before else patchHdr key d)) := by
  have _ := hc   -- not needed: with `cutEnd = 0` neither side trims anything
  have hp : (patchHdr key d).length = planned := by rw [patchHdr_length, hd]
  unfold pieceBytes
  rw [← patchHdr,
    show (if st then (patchHdr key d).drop before else patchHdr key d) = (patchHdr key d).drop (if st then before else 0) by
      cases st <;> rfl]
  subst hp
  by_cases hl : (some key == lastKey) = true
  · by_cases h2 : cutEnd = 0x200
    · simp only [hl, h2, bne_self_eq_false, Bool.and_false, Bool.false_eq_true, if_false, if_true, Nat.sub_zero, List.take_length]
    · have : (cutEnd != 0x200) = true := bne_iff_ne.mpr h2
      simp only [hl, this, h2, Bool.and_self, if_true, if_false, drop_take_length_sub]
  · simp only [hl, Bool.false_and, Bool.false_eq_true, if_false, List.take_length]

theorem assembleStep_ok {gd : Nat → Nat → Int → Except Err Bytes} {p : Piece} {d : Bytes} (h : gd p.1.1 p.2.1 (p.2.2 : Int) = .ok d)
    (before cutEnd : Nat) (lastKey : Option (Nat × Nat)) (out : List Bytes) (st : Bool) :
    assembleStep gd before cutEnd lastKey (.ok (out, st)) p =
      .ok (out ++ [pieceBytes before cutEnd lastKey st p.1 p.2.2 d], false) := by
  unfold assembleStep; simp only [h]

theorem assemble_rest (gd : Nat → Nat → Int → Except Err Bytes) (dat : Piece → Bytes) (before cutEnd : Nat)
    (lastKey : Option (Nat × Nat)) (r : List Piece) (out : List Bytes) (h : ∀ p, p ∈ r → gd p.1.1 p.2.1 (p.2.2 : Int) = .ok (dat p)) :
    r.foldl (assembleStep gd before cutEnd lastKey) (.ok (out, false)) =
      .ok (out ++ r.map fun p => pieceBytes before cutEnd lastKey false p.1 p.2.2 (dat p), false) := by
  induction r generalizing out with
  | nil => simp
  | cons p r ih =>
    rw [List.foldl_cons, assembleStep_ok (h p (List.mem_cons_self ..)), ih _ fun q hq => h q (List.mem_cons_of_mem _ hq),
      List.map_cons, List.append_assoc, List.singleton_append]

/-- `true` / `false`: `is_start`, set for the first piece only -/
theorem assemble_ok (gd : Nat → Nat → Int → Except Err Bytes) (dat : Piece → Bytes) (before cutEnd : Nat)
    (lastKey : Option (Nat × Nat)) (p : Piece) (r : List Piece)
    (h : ∀ q, q ∈ p :: r → gd q.1.1 q.2.1 (q.2.2 : Int) = .ok (dat q)) :
    assemble gd before cutEnd lastKey (p :: r) =
      .ok (pieceBytes before cutEnd lastKey true p.1 p.2.2 (dat p) ++
        (r.map fun q => pieceBytes before cutEnd lastKey false q.1 q.2.2 (dat q)).flatten) := by
  unfold assemble
  rw [List.foldl_cons, assembleStep_ok (h p (List.mem_cons_self ..)),
    assemble_rest _ dat _ _ _ _ _ fun q hq => h q (List.mem_cons_of_mem _ hq)]
  rfl

theorem assemble_spec (gd : Nat → Nat → Int → Except Err Bytes) (dat : Piece → Bytes) (before cutEnd : Nat)
    (init : List Piece) (last : Piece) (hb : before < 0x200) (hc : 0 < cutEnd) (hk : cutEnd ≤ 0x200)
    (hnd : ((init ++ [last]).map (·.1)).Nodup)
    (hgd : ∀ p, p ∈ init ++ [last] → gd p.1.1 p.2.1 (p.2.2 : Int) = .ok (dat p) ∧ (dat p).length = p.2.2 ∧ 0x200 ≤ p.2.2)
    (img : Bytes) (himg : ((init ++ [last]).map fun p => patchHdr p.1 (dat p)).flatten = img) :
    assemble gd before cutEnd (some last.1) (init ++ [last]) =
      .ok ((img.drop before).take (img.length - before - (if cutEnd = 0x200 then 0 else cutEnd))) := by
  subst himg
  obtain ⟨-, hl, h200⟩ := hgd last (by simp)
  have hkL : (if cutEnd = 0x200 then 0 else cutEnd) ≤ (patchHdr last.1 (dat last)).length := by
    rw [patchHdr_length, hl]
    split
    · exact Nat.zero_le _
    · exact Nat.le_trans hk h200
  -- the last piece is trimmed at its end, a piece before it is not (`st`: is it also the first?)
  have hlast : ∀ st, pieceBytes before cutEnd (some last.1) st last.1 last.2.2 (dat last) = _ := fun st =>
    (pieceBytes_eq _ _ _ st _ _ _ hc hl).trans (if_pos (beq_self_eq_true _))
  have hmid : ∀ q, q ∈ init → ∀ st, pieceBytes before cutEnd (some last.1) st q.1 q.2.2 (dat q) = _ := fun q hq st =>
    (pieceBytes_eq _ _ _ st _ _ _ hc (hgd q (by simp [hq])).2.1).trans (if_neg (by simpa using keys_ne_last hnd q hq))
  cases init with
  | nil =>
    rw [List.nil_append, assemble_ok _ dat _ _ _ last [] fun q hq => (hgd q hq).1, hlast true]
    simp
  | cons p mid =>
    have hP : before ≤ (patchHdr p.1 (dat p)).length := by
      rw [patchHdr_length, (hgd p (by simp)).2.1]; exact Nat.le_of_lt (Nat.lt_of_lt_of_le hb (hgd p (by simp)).2.2)
    rw [List.cons_append, assemble_ok _ dat _ _ _ p (mid ++ [last]) fun q hq => (hgd q hq).1, hmid p (by simp) true,
      List.map_append, List.map_congr_left (g := fun q => patchHdr q.1 (dat q)) fun q hq => hmid q (by simp [hq]) false,
      List.map_singleton, hlast false, List.map_cons, List.map_append, List.map_singleton, drop_take_flatten _ _ _ _ _ hP hkL]
    rfl

/-- the byte count `get_data(FullDecrypted, offset, size)` settles on: not past the declared content, not past the file -/
def clampFull (r : Region) (file : Bytes) (start offset : Nat) (size : Int) : Int :=
  let s1 : Int := if (offset : Int) + size > r.size then (r.size : Int) - offset else size
  if (offset : Int) + s1 > (file.length : Int) - start then (file.length : Int) - start - offset else s1

theorem clampFull_le (r : Region) (file : Bytes) (start offset : Nat) (size : Int) :
    (offset : Int) + clampFull r file start offset size ≤ r.size ∧
    (offset : Int) + clampFull r file start offset size ≤ (file.length : Int) - start := by
  unfold clampFull
  dsimp only
  omega

theorem fullRead_eq (E : Bytes → Bytes → Bytes) (s : State) (file : Bytes) (start : Nat) (r : Region)
    (hr : s.region? secFull = some r) (offset : Nat) (size c : Int) (hc : clampFull r file start offset size = c) :
    fullRead E s file start offset size =
      if c ≤ 0 then .ok [] else
        assemble (getData E s file start) (offset % 0x200) (0x200 - (c.toNat + offset % 0x200) % 0x200)
          (some (chunkKey s (offset - offset % 0x200 + 0x200 * ((c.toNat + offset % 0x200 + 0x1FF) / 0x200 - 1))).1)
          (plan s (offset - offset % 0x200) ((c.toNat + offset % 0x200 + 0x1FF) / 0x200)) := by
  unfold clampFull at hc
  unfold fullRead
  rw [hr]
  dsimp only at hc ⊢
  rw [hc]
  by_cases h0 : c ≤ 0
  · rw [if_pos h0, if_pos h0]
  · -- `c` and the aligned size `c + offset % 0x200` are positive, so `toNat` goes through `+` and `%`
    have hc0 : 0 ≤ c := Int.le_of_lt (Int.not_le.mp h0)
    have hal : 0 ≤ c + ((offset % 0x200 : Nat) : Int) := by omega
    rw [if_neg h0, if_neg h0, if_neg (by omega), Int.toNat_emod hal (by decide), Int.toNat_add_nat hc0, List.getLast?_map,
      List.getLast?_range, if_neg (by omega)]
    rfl

/-- rounding `m` bytes up to whole chunks adds what `cut_end` takes away again (`cut_end = 0x200`: nothing) -/
theorem roundup_chunks (m : Nat) :
    0x200 * ((m + 0x1FF) / 0x200) = m + (if 0x200 - m % 0x200 = 0x200 then 0 else 0x200 - m % 0x200) := by
  split <;> omega

/-- the source a chunk is served from, with the header's crypto flags already rewritten -/
def csrc (src : Nat → Bytes) (sec : Nat) : Bytes :=
  if sec == secHeader then setByte (setByte (src sec) 0x18B 0) 0x18F 4 else src sec

def chunkContent (s : State) (src : Nat → Bytes) (c : Nat) : Bytes :=
  slice (csrc src (chunkKey s c).1.1) (chunkKey s c).2 0x200

theorem csrc_eq_patchHdr (src : Nat → Bytes) (sec : Nat) : csrc src sec = patchHdr (sec, 0) (src sec) := rfl

theorem pieces_flatten (src : Nat → Bytes) (ps : List Piece) (h : ∀ p, p ∈ ps → p.2.2 % 0x200 = 0) :
    (ps.map fun p => slice (csrc src p.1.1) p.2.1 p.2.2).flatten =
      ((expand ps).map fun x => slice (csrc src x.1.1) x.2 0x200).flatten := by
  rw [expand, List.map_flatMap, List.flatMap_def, List.flatten_flatten, List.map_map]
  congr 1
  apply List.map_congr_left
  intro p hp
  have := flatten_slices_off (csrc src p.1.1) p.2.1 0x200 (p.2.2 / 0x200)
  rw [Nat.mul_div_cancel' (Nat.dvd_of_mod_eq_zero (h p hp))] at this
  rw [← this, Function.comp_apply, List.map_map]
  rfl

theorem patchHdr_slice (src : Nat → Bytes) (key : Nat × Nat) (off sz : Nat)
    (hh : key.1 = secHeader → off = 0 ∧ (src secHeader).length ≤ sz) :
    patchHdr key (slice (src key.1) off sz) = slice (csrc src key.1) off sz := by
  unfold patchHdr csrc
  by_cases hhd : (key.1 == secHeader) = true
  · have heq : key.1 = secHeader := by simpa using hhd
    obtain ⟨ho, hl⟩ := hh heq
    rw [if_pos hhd, if_pos hhd, heq, ho, slice_all _ _ hl, slice_all _ _ (by rw [setByte_length, setByte_length]; exact hl)]
  · rw [if_neg hhd, if_neg hhd]

/-- the regular situation: sections do not overlap; `get_data` of a section or of a raw chunk returns the slice of its source
    `src`; every chunk of the first `N` lies inside its source; the header is the single chunk at offset 0 -/
structure ReadGeom (E : Bytes → Bytes → Bytes) (s : State) (file : Bytes) (start : Nat) (src : Nat → Bytes) (N : Nat) : Prop where
  disjoint : RegionsDisjoint s
  gd : ∀ sec off sz, 0 < sz → off + sz ≤ (src sec).length → getData E s file start sec off (sz : Int) = .ok (slice (src sec) off sz)
  inside : ∀ i, i < N → (chunkKey s (0x200 * i)).2 + 0x200 ≤ (src (chunkKey s (0x200 * i)).1.1).length
  hdr : ∀ i, i < N → (chunkKey s (0x200 * i)).1.1 = secHeader →
    (chunkKey s (0x200 * i)).2 = 0 ∧ (src secHeader).length = 0x200

/-- the one image every read of the fully-decrypted view is a slice of -/
def fullImage (s : State) (src : Nat → Bytes) (N : Nat) : Bytes := (List.range N).flatMap fun i => chunkContent s src (0x200 * i)

section
variable {E : Bytes → Bytes → Bytes} {s : State} {file : Bytes} {start : Nat} {src : Nat → Bytes} {N : Nat}
  (g : ReadGeom E s file start src N)
include g

theorem chunkContent_length (i : Nat) (hi : i < N) : (chunkContent s src (0x200 * i)).length = 0x200 := by
  exact slice_length_of_le _ (by rw [csrc_eq_patchHdr, patchHdr_length]; exact g.inside i hi)

theorem fullImage_length : (fullImage s src N).length = N * 0x200 :=
  length_flatMap_range _ 0x200 N (fun b hb => chunkContent_length g b hb)

theorem fullImage_slice (a n : Nat) (h : a + n ≤ N) :
    ((List.range n).map fun i => chunkContent s src (0x200 * a + 0x200 * i)).flatten = slice (fullImage s src N) (0x200 * a) (0x200 * n) := by
  rw [← flatten_slices_off (fullImage s src N) (0x200 * a) 0x200 n]
  congr 1
  apply List.map_congr_left
  intro i hi
  have hlt : a + i < N := Nat.lt_of_lt_of_le (Nat.add_lt_add_left (List.mem_range.mp hi) a) h
  have := slice_flatMap_const (fun i => chunkContent s src (0x200 * i)) 0x200 (List.range N) []
    (fun b hb => chunkContent_length g b (List.mem_range.mp hb)) (a + i) (by rw [List.length_range]; exact hlt)
  rw [List.append_nil, List.getElem_range, Nat.mul_add] at this
  exact this.symm

/-- the first claim from the piece's last chunk, the second from its first -/
theorem piece_inside (a n : Nat) (haN : a + n ≤ N) (acc : List Piece) (hplan : PlanInv s (0x200 * a) n acc)
    (p : Piece) (hp : p ∈ acc) :
    p.2.1 + p.2.2 ≤ (src p.1.1).length ∧ (p.1.1 = secHeader → p.2.1 = 0 ∧ (src secHeader).length ≤ p.2.2) := by
  obtain ⟨hsz1, hsz2⟩ := hplan.sizes p hp
  have hdvd := Nat.dvd_of_mod_eq_zero hsz2
  have h200 : 0x200 ≤ p.2.2 := Nat.le_of_dvd hsz1 hdvd
  have hm := hplan.chunks_pos hp
  obtain ⟨i, hi, hxi⟩ := hplan.chunk_of_piece hp (p.2.2 / 0x200 - 1) (Nat.sub_lt hm Nat.one_pos)
  obtain ⟨j, hj, hxj⟩ := hplan.chunk_of_piece hp 0 hm
  rw [← Nat.mul_add] at hxi hxj
  have hin := g.inside (a + i) (Nat.lt_of_lt_of_le (Nat.add_lt_add_left hi a) haN)
  rw [hxi] at hin
  rw [Nat.add_assoc, ← Nat.mul_succ, Nat.succ_eq_add_one, Nat.sub_add_cancel hm, Nat.mul_div_cancel' hdvd] at hin
  refine ⟨hin, fun hh => ?_⟩
  have := g.hdr (a + j) (Nat.lt_of_lt_of_le (Nat.add_lt_add_left hj a) haN) (by rw [hxj]; exact hh)
  rw [hxj] at this
  exact ⟨this.1, this.2 ▸ h200⟩

theorem assemble_aligned (a n before cutEnd : Nat) (hn : 0 < n) (haN : a + n ≤ N) (hb : before < 0x200)
    (hc0 : 0 < cutEnd) (hcle : cutEnd ≤ 0x200) :
    assemble (getData E s file start) before cutEnd (some (chunkKey s (0x200 * a + 0x200 * (n - 1))).1) (plan s (0x200 * a) n) =
      .ok (slice (fullImage s src N) (0x200 * a + before) (0x200 * n - before - (if cutEnd = 0x200 then 0 else cutEnd))) := by
  have hplan := plan_spec s (contig_of_disjoint s g.disjoint) (0x200 * a) n
  obtain ⟨init, last, hps, hlastk⟩ := hplan.last hn
  have hin := piece_inside g a n haN _ hplan
  have hflat : ((plan s (0x200 * a) n).map fun p => patchHdr p.1 (slice (src p.1.1) p.2.1 p.2.2)).flatten =
      slice (fullImage s src N) (0x200 * a) (0x200 * n) := by
    rw [List.map_congr_left (g := fun p => slice (csrc src p.1.1) p.2.1 p.2.2)
        fun p hp => patchHdr_slice src p.1 p.2.1 p.2.2 (hin p hp).2,
      pieces_flatten src _ (fun p hp => (hplan.sizes p hp).2), hplan.chunks, List.map_map,
      ← fullImage_slice g a n haN]
    rfl
  have hread : ∀ p, p ∈ plan s (0x200 * a) n →
      getData E s file start p.1.1 p.2.1 (p.2.2 : Int) = .ok (slice (src p.1.1) p.2.1 p.2.2) ∧
      (slice (src p.1.1) p.2.1 p.2.2).length = p.2.2 ∧ 0x200 ≤ p.2.2 := fun p hp => by
    obtain ⟨hpos, hmod⟩ := hplan.sizes p hp
    have hp_in := (hin p hp).1
    exact ⟨g.gd _ _ _ hpos hp_in, slice_length_of_le _ hp_in, Nat.le_of_dvd hpos (Nat.dvd_of_mod_eq_zero hmod)⟩
  have hnd := hplan.nodup
  rw [hps] at hnd hread hflat
  rw [← hlastk, hps, assemble_spec _ (fun p => slice (src p.1.1) p.2.1 p.2.2) before cutEnd init last hb hc0 hcle hnd hread _ hflat,
    slice_length, fullImage_length g, slice_drop, slice_take,
    Nat.min_eq_left (show 0x200 * n ≤ N * 0x200 - 0x200 * a by omega), Nat.min_eq_left (Nat.sub_le _ _)]

theorem fullRead_image (r : Region) (hr : s.region? secFull = some r) (offset : Nat) (size c : Int)
    (hc : clampFull r file start offset size = c) (hN : 0 < c → offset + c.toNat ≤ 0x200 * N) :
    fullRead E s file start offset size = .ok (if c ≤ 0 then [] else slice (fullImage s src N) offset c.toNat) := by
  rw [fullRead_eq E s file start r hr offset size c hc]
  by_cases hle : c ≤ 0
  · rw [if_pos hle, if_pos hle]
  · rw [if_neg hle, if_neg hle]
    have hm : 0 < c.toNat := Int.lt_toNat.mpr (Int.not_le.mp hle)
    generalize c.toNat = m at hN hm ⊢
    -- offset = 0x200 * a + before
    have hdm := Nat.div_add_mod offset 0x200
    have hbl : offset % 0x200 < 0x200 := Nat.mod_lt _ (by decide)
    generalize offset / 0x200 = a at hdm
    generalize offset % 0x200 = before at hdm hbl ⊢
    subst hdm
    rw [Nat.add_sub_cancel, assemble_aligned g a ((m + before + 0x1FF) / 0x200) before (0x200 - (m + before) % 0x200)
        (Nat.div_pos (by omega) (by decide)) (by omega) hbl (Nat.sub_pos_of_lt (Nat.mod_lt _ (by decide))) (Nat.sub_le _ _),
      roundup_chunks, Nat.add_right_comm m before, Nat.add_sub_cancel, Nat.add_sub_cancel]

end

/-- the sources of a container without encryption (NoCrypto flag, or opened with `assume_decrypted`): the windows themselves -/
def plainSrc (s : State) (file : Bytes) (start : Nat) (sec : Nat) : Bytes :=
  match s.region? sec with
  | some r => slice file (start + r.offset) r.size
  | none => []

theorem getData_inside (E : Bytes → Bytes → Bytes) (s : State) (file : Bytes) (start sec off sz : Nat) (r : Region)
    (hr : s.region? sec = some r) (hin : off + sz ≤ r.size) :
    getData E s file start sec off (sz : Int) =
      if plainSec s sec then .ok (slice file (start + r.offset + off) sz)
      else if sec == secExeFS then
        match openRaw s start secExeFS with
        | .ok (.merged o z iv segs) => .ok (mergedBytes E file o z iv segs off sz)
        | .ok (.ctr key iv o z) => .ok (ctrAt E key iv off (slice (slice file o z) off sz))
        | .ok (.window o z) => .ok (slice (slice file o z) off sz)
        | .ok .full => .error (.other "unreachable")
        | .error e => .error e
      else
        match normalKey s (if sec == secRomFS then 0x44 else s.mainSlot) with
        | .error e => .error e
        | .ok k => .ok (ctrAt E k r.iv off (slice file (start + r.offset + off) sz)) := by
  unfold getData
  rw [hr]
  simp only
  rw [if_neg (show ¬ ((off : Int) + (sz : Int) > (r.size : Int)) by omega), if_neg (Int.not_lt.mpr (Int.natCast_nonneg sz)),
    Int.toNat_natCast]
  rfl

theorem getData_secSrc (E : Bytes → Bytes → Bytes) (s : State) (file : Bytes) (start : Nat) (sec off sz : Nat) (hsz : 0 < sz)
    (h : off + sz ≤ (secSrc E s file start sec).length) :
    getData E s file start sec off (sz : Int) = .ok (slice (secSrc E s file start sec) off sz) := by
  revert h
  fun_cases secSrc E s file start sec
  case case2 r hr hp =>  -- read without decryption: the window
    intro h
    rw [slice_length] at h
    have hin := Nat.le_trans h (Nat.min_le_left _ _)
    rw [getData_inside E s file start sec off sz r hr hin, if_pos hp, slice_slice _ _ _ _ _ hin, Nat.add_assoc]
  case case3 r hr hp he o z iv segs hv =>  -- ExeFS under two keys: the merged view
    intro h
    have hin := Nat.le_trans h (List.length_take_le ..)
    rw [getData_inside E s file start sec off sz r hr hin, if_neg hp, if_pos he, hv]
    simp only [mergedBytes]
    rw [slice_take_of_le _ _ _ _ hin]
  case case4 r hr hp he key iv o z hv =>  -- ExeFS under one key
    intro h
    have hin := Nat.le_trans h (List.length_take_le ..)
    rw [getData_inside E s file start sec off sz r hr hin, if_neg hp, if_pos he, hv]
    simp only
    rw [slice_take_of_le _ _ _ _ hin, ctrAt_xorWith, ctrAt_xorWith, slice_xorWith]
  case case5 r hr hp he o z hv =>  -- ExeFS opened as a plain window
    intro h
    have hin := Nat.le_trans h (List.length_take_le ..)
    rw [getData_inside E s file start sec off sz r hr hin, if_neg hp, if_pos he, hv]
    rw [slice_take_of_le _ _ _ _ hin]
  case case7 r hr hp he k hk =>  -- any other section: CTR under its keyslot
    intro h
    rw [ctrAt_xorWith, xorWith_length, slice_length] at h
    have hin := Nat.le_trans h (Nat.min_le_left _ _)
    rw [getData_inside E s file start sec off sz r hr hin, if_neg hp, if_neg he, hk]
    simp only
    rw [ctrAt_xorWith, ctrAt_xorWith, slice_xorWith, slice_slice _ _ _ _ _ hin, Nat.add_assoc]
  -- a missing region or key: the source is empty
  all_goals exact fun h => absurd (Nat.le_trans (Nat.le_add_left sz off) h) (Nat.not_le.mpr hsz)

theorem secSrc_plain (E : Bytes → Bytes → Bytes) (s : State) (file : Bytes) (start : Nat)
    (hplain : (s.assumeDecrypted || s.flags.noCrypto) = true) (sec : Nat) :
    secSrc E s file start sec = plainSrc s file start sec := by
  unfold secSrc plainSrc
  cases s.region? sec with
  | none => rfl
  | some r => simp only [plainSec, hplain, Bool.true_or, if_true]

theorem readGeom_of_readGeomB (E : Bytes → Bytes → Bytes) (s : State) (file : Bytes) (start : Nat) (N : Nat)
    (h : readGeomB E s file start N = true) : ReadGeom E s file start (secSrc E s file start) N := by
  unfold readGeomB at h
  simp only [Bool.and_eq_true, List.all_eq_true, List.mem_range, decide_eq_true_eq, Bool.or_eq_true, bne_iff_ne] at h
  obtain ⟨hap, hall⟩ := h
  -- `readGeomB` tabulates the lengths of the sources of the section ids 0 … 8 (`secRaw` = 8 is the largest) and asks every
  -- chunk's section id to be one of them
  have hget : ∀ sec, sec < 9 →
      ((List.range 9).map fun sec => (secSrc E s file start sec).length).getD sec 0 = (secSrc E s file start sec).length := by
    intro sec hs
    rw [List.getD_eq_getElem?_getD, List.getElem?_map, List.getElem?_range hs]
    rfl
  refine ⟨regionsDisjoint_of_apart s hap, fun sec off sz hsz hin => getData_secSrc E s file start sec off sz hsz hin, ?_, ?_⟩
  · intro i hi
    obtain ⟨⟨h1, h2⟩, _⟩ := hall i hi
    rw [hget _ h2] at h1
    exact h1
  · intro i hi hh
    obtain ⟨⟨_, _⟩, h3⟩ := hall i hi
    rcases h3 with h3 | h3
    · exact absurd hh h3
    · rw [hget secHeader (by decide)] at h3
      exact h3

theorem addChunk_length (l : List ((Nat × Nat) × Nat × Nat)) (key : Nat × Nat) (off : Nat) :
    (addChunk l key off).length ≤ l.length + 1 := by
  unfold addChunk
  split <;> simp

theorem plan_length (s : State) (a n : Nat) : (plan s a n).length ≤ n := by
  induction n with
  | zero => simp [plan]
  | succ n ih => rw [plan_succ]; exact Nat.le_trans (addChunk_length _ _ _) (Nat.succ_le_succ ih)

theorem fullChunks_eq (r : Region) (file : Bytes) (start offset : Nat) (size c : Int)
    (hc : clampFull r file start offset size = c) :
    fullChunks r.size file.length start offset size = if c ≤ 0 then 0 else (c.toNat + offset % 0x200 + 0x1FF) / 0x200 := by
  unfold clampFull at hc
  unfold fullChunks
  dsimp only at hc ⊢
  rw [hc]
  split
  · rfl
  · rename_i h0
    rw [if_neg (by omega), Int.toNat_add_nat (Int.le_of_lt (Int.not_le.mp h0))]

theorem fullChunks_bound (r : Region) (file : Bytes) (start offset : Nat) (size : Int) :
    fullChunks r.size file.length start offset size * 0x200 ≤ file.length + 0x1FF := by
  rw [fullChunks_eq r file start offset size _ rfl]
  have hc := (clampFull_le r file start offset size).2
  split
  · rw [Nat.zero_mul]; exact Nat.zero_le _
  · omega

theorem fullRead_plan (E : Bytes → Bytes → Bytes) (s : State) (file : Bytes) (start offset : Nat) (size : Int) (r : Region)
    (hr : s.region? secFull = some r) :
    ∃ before cutEnd lastKey,
      fullRead E s file start offset size =
        if fullChunks r.size file.length start offset size = 0 then .ok []
        else assemble (getData E s file start) before cutEnd lastKey
               (plan s (offset - offset % 0x200) (fullChunks r.size file.length start offset size)) := by
  rw [fullRead_eq E s file start r hr offset size _ rfl, fullChunks_eq r file start offset size _ rfl]
  split
  · exact ⟨0, 0, none, rfl⟩
  · rename_i h0
    exact ⟨_, _, _, by rw [if_neg (by omega)]⟩

end Ncch
end Pyctr
