/-
  One write through the verified level-4 view of a regular partition, at the container (`lv4Write_regular`); hence the hash path
  on the container (`lv4Write_path`) and re-opening after a write, for either container kind and any partition (`lv4Write_synced`:
  the write is a descriptor replacement in the sense of `Synced.replace_desc`).
-/
import Proofs.DescRoundtrip
import Proofs.SaveWriteRefines
import Proofs.SaveWrite
import Proofs.SaveSynced
namespace Pyctr
namespace Save
variable (H : Bytes → Bytes) (mac : Bytes → Bytes → Bytes)

/-- what a non-empty write through the verified level-4 view did on a regular geometry: `write_data` succeeded (state `s`) and
    touched the master hashes, so the descriptor was re-serialised (`pd`) and descriptor, header hash and CMAC were updated in the
    file `write_data` left (giving `F'`, `hdr`) -/
structure Lv4Wrote (H : Bytes → Bytes) (mac : Bytes → Bytes → Bytes) (cm : Option CmacScheme) (c : Cont) (pi : Nat) (p : PartSt)
    (data : Bytes) (n : Nat) (c' : Cont) (s : WState) (pd F' hdr : Bytes) : Prop where
  wrote : writeData H p.tree 3 p.seek (writeClamp p data) (p.writeStart c.F) = .ok s
  spec : WriteDataSpec H p.tree 3 p.seek (writeClamp p data) (p.writeStart c.F) s
  desc : partdescToBytes ⟨p.difi, p.ivfc, p.dpfs, s.master⟩ p.descSize = some pd
  update : updateHashes H mac cm c s.w.F p pd = .ok (F', hdr)
  state : c' = { c with F := F', header := hdr, parts := c.parts.set pi (p.wrote s n) }

theorem lv4Write_nonempty (cm : Option CmacScheme) (c : Cont) (pi : Nat)
    (p : PartSt) (hp : c.parts[pi]? = some p) (data : Bytes) (n : Nat) (c' : Cont) (hH : ∀ x, (H x).length = 0x20)
    (g : GeomP (p.P c.F) p.tree p.master) (hne : writeClamp p data ≠ []) (h : lv4Write H mac cm c pi data = .ok (n, c')) :
    ∃ s pd F' hdr, Lv4Wrote H mac cm c pi p data n c' s pd F' hdr := by
  obtain ⟨-, ⟨he, -⟩ | ⟨-, -, s, hwd, hrest⟩⟩ := lv4Write_inv H mac cm c pi p hp data n c' h
  · exact absurd he hne
  have R := writeData_spec H p.tree hH 3 (by omega) p.seek _ (p.writeStart c.F) s g hne
    (writeClamp_fits p data hne) hwd
  rcases hrest with ⟨-, pd, F', hdr, hpd, hu, hc⟩ | ⟨hmt, -⟩
  · exact ⟨s, pd, F', hdr, hwd, R, hpd, hu, hc⟩
  · rw [R.mtouched] at hmt; cases hmt

/-- **C18, hash path and frame, on the container model**; the header, the tables and the re-serialised descriptor lie below
    `Bd ≤` the partition.  The descriptor bound `hdesc` is asked only of the master hashes `write_data` returns. -/
theorem lv4Write_path (cm : Option CmacScheme) (c : Cont) (pi : Nat)
    (p : PartSt) (hp : c.parts[pi]? = some p) (data : Bytes) (n : Nat) (c' : Cont)
    (hH : ∀ x, (H x).length = 0x20) (hmac : ∀ k x, (mac k x).length = 0x10) (hnz : ¬ ZeroHash H) (hh : c.header.length = 0x100)
    (g : GeomP (p.P c.F) p.tree p.master) (hne : writeClamp p data ≠ [])
    (Bd : Nat) (hB1 : 0x200 ≤ Bd) (hB2 : Bd ≤ p.pOff) (hB3 : p.pOff ≤ c.F.length)
    (hdesc : ∀ s pd, writeData H p.tree 3 p.seek (writeClamp p data) (p.writeStart c.F) = .ok s →
      partdescToBytes ⟨p.difi, p.ivfc, p.dpfs, s.master⟩ p.descSize = some pd → c.tableOff + p.descOff + pd.length ≤ Bd)
    (h : lv4Write H mac cm c pi data = .ok (n, c')) :
    ∃ p', c'.parts[pi]? = some p' ∧ p'.tree = p.tree ∧ p'.pOff = p.pOff ∧ p'.pSize = p.pSize ∧
      Lof (p'.P c'.F) p.tree 3 = overlay (Lof (p.P c.F) p.tree 3) p.seek (writeClamp p data) ∧
      (∀ b, b * (p.tree.level 3).bs < (Lof (p.P c.F) p.tree 3).length →
        (touched p.seek (writeClamp p data).length (p.tree.level 3).bs b ∨ chainOK H p.bsOf p.master (Lof (p.P c.F) p.tree) 3 b) →
        chainOK H p.bsOf p'.master (Lof (p'.P c'.F) p.tree) 3 b) ∧
      c'.F.length = c.F.length ∧
      (∀ z, Bd ≤ z → (z < p.pOff ∨ p.pOff + p.pSize ≤ z) → c'.F[z]? = c.F[z]?) := by
  obtain ⟨s, pd, F', hdr, W⟩ := lv4Write_nonempty H mac cm c pi p hp data n c' hH g hne h
  obtain rfl := W.state
  have R := W.spec
  have hdin : p.seek + (writeClamp p data).length ≤ (p.tree.level 3).size := writeClamp_fits p data hne
  have hL3 := Lof_length _ _ g.treeWF 3 (by omega)
  obtain ⟨-, a2, -, -, a5⟩ := absWrite_chain H (fun i => (p.tree.level i).bs) (fun i => (p.tree.level i).bs_pos) hH hnz 3 p.seek _
    (Lof (p.P c.F) p.tree) p.master (Lof s.w.bytes p.tree) s.master (List.length_pos_iff.mpr hne) (by rw [hL3]; exact hdin)
    (Lof_room _ _ _ g) R.refines
  -- the descriptor update stays below `Bd`, so the partition window reads as `write_data` left it
  obtain ⟨f1, f2⟩ := updateHashes_frame H mac cm c s.w.F p pd F' hdr Bd hB1 (hdesc s pd W.wrote W.desc)
    (by rw [R.win.flen]; exact Nat.le_trans hB2 hB3) hh hH hmac W.update
  have hwin : slice F' p.pOff p.pSize = s.w.bytes := R.window F' Bd hB2 f2
  refine ⟨_, List.getElem?_set_self (List.getElem?_eq_some_iff.mp hp).1, rfl, rfl, rfl, ?_, fun b hb1 hb2 => ?_, f1.trans R.win.flen,
    fun z hz1 hz2 => (f2 z hz1).trans (R.win.outside z hz2)⟩
  · show Lof (slice F' p.pOff p.pSize) p.tree 3 = _
    rw [hwin]; exact a2
  · show chainOK H p.bsOf s.master (Lof (slice F' p.pOff p.pSize) p.tree) 3 b
    rw [hwin]; exact a5 b hb1 hb2

theorem mkDp_congr (P P' : Bytes) (dpfs : Dpfs) (sel : Nat)
    (h1 : ∀ y, dpfs.lv1.offset ≤ y → y < dpfs.lv1.offset + dpfs.lv1.size * 2 → P'[y]? = P[y]?)
    (h2 : ∀ y, dpfs.lv2.offset ≤ y → y < dpfs.lv2.offset + dpfs.lv2.size * 2 → P'[y]? = P[y]?) :
    mkDp P' dpfs sel = mkDp P dpfs sel := by
  unfold mkDp
  rw [slice_congr P P' _ _ h1, slice_congr P P' _ _ h2]

/-- the DPFS level-1 and level-2 tables lie outside the data windows -/
def TablesApart (dpfs : Dpfs) (t : Tree) : Prop :=
  ∀ y, ((dpfs.lv1.offset ≤ y ∧ y < dpfs.lv1.offset + dpfs.lv1.size * 2) ∨
        (dpfs.lv2.offset ≤ y ∧ y < dpfs.lv2.offset + dpfs.lv2.size * 2)) → OutsideData t y

theorem clearOf_spec (a n b m : Nat) (h : clearOf a n b m = true) (y : Nat) (h1 : a ≤ y) (h2 : y < a + n) :
    y < b ∨ b + m ≤ y := by
  unfold clearOf at h
  simp only [decide_eq_true_eq] at h
  omega

theorem tablesApart_of_b (dpfs : Dpfs) (t : Tree) (h : tablesApartB dpfs t = true) : TablesApart dpfs t := by
  have one : ∀ a n, (clearOf a n t.dp.lv3.offset (t.dp.lv3.size * 2) &&
      match t.external with
      | none => true
      | some (eo, es) => clearOf a n eo es) = true → ∀ y, a ≤ y → y < a + n → OutsideData t y := by
    intro a n h y ya yb
    rw [Bool.and_eq_true] at h
    refine ⟨clearOf_spec _ _ _ _ h.1 y ya yb, fun eo es he => ?_⟩
    have h2 := h.2
    rw [he] at h2
    exact clearOf_spec _ _ _ _ h2 y ya yb
  unfold tablesApartB at h
  rw [List.all_cons, List.all_cons, List.all_nil, Bool.and_true, Bool.and_eq_true] at h
  intro y hy
  rcases hy with ⟨ya, yb⟩ | ⟨ya, yb⟩
  · exact one _ _ h.1 y ya yb
  · exact one _ _ h.2 y ya yb

/-- the side conditions of the re-open theorems on one partition -/
structure PartOK (c : Cont) (pi : Nat) (p : PartSt) : Prop where
  geom : GeomP (p.P c.F) p.tree p.master
  tabs : TablesApart p.dpfs p.tree
  desc : DescWF ⟨p.difi, p.ivfc, p.dpfs, p.master⟩ p.descSize
  lay : DisaLayout c pi p

/-- what a regular partition (`PartOK`) adds to `Lv4Wrote` -/
structure Lv4Regular (c : Cont) (p : PartSt) (s : WState) (pd F' : Bytes) : Prop where
  descLen : pd.length = p.descSize
  descLoads : loadPartdesc pd = .ok ⟨p.difi, p.ivfc, p.dpfs, s.master⟩
  flen : F'.length = c.F.length
  outside : ∀ z, c.tableOff + c.tableSize ≤ z → (z < p.pOff ∨ p.pOff + p.pSize ≤ z) → F'[z]? = c.F[z]?
  window : slice F' p.pOff p.pSize = s.w.bytes

theorem lv4Write_regular (cm : Option CmacScheme) (c : Cont) (pi : Nat) (p : PartSt) (hp : c.parts[pi]? = some p) (data : Bytes)
    (n : Nat) (c' : Cont) (hH : ∀ x, (H x).length = 0x20) (hmac : ∀ k x, (mac k x).length = 0x10) (hh : c.header.length = 0x100)
    (ok : PartOK c pi p) (hne : writeClamp p data ≠ []) (h : lv4Write H mac cm c pi data = .ok (n, c')) :
    ∃ s pd F' hdr, Lv4Wrote H mac cm c pi p data n c' s pd F' hdr ∧ Lv4Regular c p s pd F' := by
  obtain ⟨g, -, hwf, L⟩ := ok
  have hLd := L.dIn; have hLe := L.tEnd; have hLo := L.tOff; have hLp := L.pLo
  obtain ⟨s, pd, F', hdr, W⟩ := lv4Write_nonempty H mac cm c pi p hp data n c' hH g hne h
  have R := W.spec
  have r4 : s.w.F.length = c.F.length := R.win.flen
  obtain ⟨pdl, pdr⟩ := partdesc_roundtrip _ _ pd (hwf.of_master R.mlen (R.mshape hwf.hashLen)) W.desc
  obtain ⟨u1, u2⟩ := updateHashes_frame H mac cm c s.w.F p pd F' hdr (c.tableOff + c.tableSize) (by omega)
    (by rw [pdl]; omega) (by rw [r4]; omega) hh hH hmac W.update
  exact ⟨s, pd, F', hdr, W, pdl, pdr, by rw [u1, r4], fun z hz1 hz2 => (u2 z hz1).trans (R.win.outside z hz2),
    R.window F' _ hLp u2⟩

theorem lv4Write_synced (cm : Option CmacScheme) (c : Cont) (pi : Nat) (p : PartSt) (hp : c.parts[pi]? = some p)
    (data : Bytes) (n : Nat) (c' : Cont) (hH : ∀ x, (H x).length = 0x20) (hmac : ∀ k x, (mac k x).length = 0x10)
    (hs : Synced H c) (ok : PartOK c pi p) (h : lv4Write H mac cm c pi data = .ok (n, c')) : Synced H c' := by
  by_cases hne : writeClamp p data = []
  · rw [lv4Write_empty_inv H mac cm c pi p hp data n c' hne h]; exact hs
  have L := ok.lay; have hta := ok.tabs
  have hLd := L.dIn; have hLe := L.tEnd; have hLo := L.tOff; have hLp := L.pLo
  have hhl := hs.header_length (by omega)
  have hTl : (slice c.F c.tableOff c.tableSize).length = c.tableSize := by rw [slice_length]; omega
  have hdp : descPos c p = p.descOff ∧ (c.kind = .diff → p.descOff = 0 ∧ p.descSize = c.tableSize) := by
    unfold descPos
    cases hk : c.kind with
    | disa => exact ⟨rfl, fun x => by cases x⟩
    | diff => have := hs.diff_desc hk hLe pi p hp; exact ⟨this.1.symm, fun _ => this⟩
  obtain ⟨s, pd, F', hdr, W, G⟩ := lv4Write_regular H mac cm c pi p hp data n c' hH hmac hhl ok hne h
  obtain rfl := W.state
  have R := W.spec
  have pdl := G.descLen
  have r4 : s.w.F.length = c.F.length := R.win.flen
  have r5 : ∀ z, (z < p.pOff ∨ p.pOff + p.pSize ≤ z) → s.w.F[z]? = c.F[z]? := R.win.outside
  have U := updateHashes_spec H mac cm c s.w.F p pd F' hdr hhl hH hmac (by rw [r4]; omega)
    (by rw [hdp.1, r4, pdl]; omega) W.update
  -- the new table is the old one with the descriptor replaced (`write_data` wrote inside the partition window only)
  have hTeq : slice F' c.tableOff c.tableSize = overlay (slice c.F c.tableOff c.tableSize) p.descOff pd := by
    rw [updateHashes_table H mac cm c s.w.F p pd F' hdr hhl hH hmac hLo (by rw [r4]; exact hLe) (by rw [hdp.1, pdl]; exact hLd) W.update,
      hdp.1, slice_congr c.F s.w.F c.tableOff c.tableSize fun i _ hi => r5 i (Or.inl (by omega))]
  -- the digest stored in the header is the one `open` recomputes: a DIFF descriptor fills the table
  have hdgv : tableDigest H c pd F' = H (slice F' c.tableOff c.tableSize) :=
    tableDigest_eq_table H c pd F' fun hk => by
      obtain ⟨z1, z2⟩ := hdp.2 hk
      rw [hTeq, z1, overlay_full _ _ (by rw [hTl, pdl, z2]; exact Nat.le_refl _)]
  rw [← U.header]
  refine hs.replace_desc hH pi p hp L F' pd s.master s.caches (p.seek + n) G.flen ?_ hTeq pdl G.descLoads ?_ G.outside
  · rw [U.header, U.digest hLo, hdgv]
  · obtain ⟨_, _, P⟩ := hs.part pi p hp
    rw [P.dp, G.window]
    exact mkDp_congr _ _ _ _ (fun y h1 h2 => R.frame y (hta y (Or.inl ⟨h1, h2⟩))) (fun y h1 h2 => R.frame y (hta y (Or.inr ⟨h1, h2⟩)))

end Save
end Pyctr
