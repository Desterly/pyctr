/-
  C20: the backward-LZSS decoder inverts every disciplined encoder.
  `decompress (encodeFile P gs pad) = .ok (P ++ expand gs [])` whenever `validB P gs pad`.
-/
import Proofs.BitFields
import PyctrModel.Fmt.LzssEnc
import Proofs.BytesLemmas
namespace Pyctr

theorem getD_toList (a : Array UInt8) (i : Nat) : a.getD i 0 = a.toList.getD i 0 := by
  simp [Array.getD_eq_getD_getElem?, List.getD_eq_getElem?_getD]

theorem getD_of_take {l X Y : Bytes} {p : Nat} (h : l.take p = X ++ Y) (j : Nat) (hj : j < Y.length) :
    l.getD (X.length + j) 0 = Y.getD j 0 := by
  have hl := congrArg List.length h
  simp only [List.length_take, List.length_append] at hl
  have := congrArg (fun t => t[X.length + j]?.getD 0) h
  simp only [List.getElem?_take, List.getElem?_append_right (Nat.le_add_right _ _), Nat.add_sub_cancel_left] at this
  rw [if_pos (by omega)] at this
  simpa [List.getD_eq_getElem?_getD] using this

theorem take_of_take {l X Y : Bytes} {p : Nat} (h : l.take p = X ++ Y) : l.take X.length = X := by
  have hl := congrArg List.length h
  simp only [List.length_take, List.length_append] at hl
  have := congrArg (List.take X.length) h
  rwa [List.take_take, List.take_left' rfl, Nat.min_eq_left (by omega)] at this

theorem drop_set_pred {l : Bytes} {p : Nat} (v : UInt8) (h1 : 0 < p) (h2 : p ≤ l.length) :
    (l.set (p - 1) v).drop (p - 1) = v :: l.drop p := by
  rw [List.drop_eq_getElem_cons (by simp; omega), List.getElem_set_self, List.drop_set_of_lt (by omega),
    show p - 1 + 1 = p by omega]

namespace Lzss

theorem ctrlOf_lt : ∀ (ts : List Tok) (i : Nat), ts.length ≤ i → ctrlOf ts i < 2 ^ i
  | [], i, _ => Nat.two_pow_pos i
  | _ :: _, 0, h => by simp at h
  | t :: ts, k + 1, h => by
    have ih := ctrlOf_lt ts k (by simpa using h)
    simp only [ctrlOf, Nat.add_sub_cancel, Nat.pow_succ]
    cases t <;> simp only [Tok.flag] <;> omega

/-- the decoder's test of bit `k`: quotient and remainder by `2 ^ k` are unique -/
theorem bit_step (c k f r : Nat) (h : c % 2 ^ (k + 1) = f * 2 ^ k + r) (hr : r < 2 ^ k) :
    (c >>> k) &&& 1 = f ∧ c % 2 ^ k = r := by
  have hp := Nat.two_pow_pos k
  have hm : c % 2 ^ k + 2 ^ k * (c / 2 ^ k % 2) = r + 2 ^ k * f := by rw [← Nat.mod_pow_succ, h, Nat.mul_comm, Nat.add_comm]
  have e1 := congrArg (· % 2 ^ k) hm
  have e2 := congrArg (· / 2 ^ k) hm
  simp only [Nat.add_mul_mod_self_left, Nat.mod_mod, Nat.mod_eq_of_lt hr] at e1
  simp only [Nat.add_mul_div_left _ _ hp, Nat.div_eq_of_lt hr, Nat.div_eq_of_lt (Nat.mod_lt c hp), Nat.zero_add] at e2
  rw [Nat.and_one_is_mod, Nat.shiftRight_eq_div_pow]
  exact ⟨e2, e1⟩

/-- The decoding invariant.  The buffer (`|P| + T` bytes, `T` what the whole stream decodes to) below `pin` is the head `P`
    followed by the unread stream `rem` (stored backwards); from `pout` on it is the decoded tail `out`.  What lies between is
    overwritten before it is read. -/
structure Inv (T : Nat) (P : Bytes) (s : St) (rem out : Bytes) : Prop where
  size : s.dec.size = P.length + T
  pin : s.pin = P.length + rem.length
  inp : s.dec.toList.take s.pin = P ++ rem.reverse
  pout : s.pout + out.length = P.length + T
  outp : s.dec.toList.drop s.pout = out
  le : s.pin ≤ s.pout

theorem Inv.read {T P s Y rem out} (h : Inv T P s (Y ++ rem) out) (j : Nat) (hj : j < Y.length) :
    s.dec.getD (s.pin - Y.length + j) 0 = Y.reverse.getD j 0 := by
  have hi := h.inp
  rw [List.reverse_append, ← List.append_assoc] at hi
  have hidx : s.pin - Y.length = (P ++ rem.reverse).length := by
    simp only [h.pin, List.length_append, List.length_reverse]; omega
  rw [getD_toList, hidx]
  exact getD_of_take hi j (by simpa using hj)

theorem Inv.pop {T P s Y rem out} (h : Inv T P s (Y ++ rem) out) : Inv T P { s with pin := s.pin - Y.length } rem out := by
  have hp := h.pin
  have hi := h.inp
  rw [List.length_append] at hp
  rw [List.reverse_append, ← List.append_assoc] at hi
  have hl : (P ++ rem.reverse).length = s.pin - Y.length := by simp only [List.length_append, List.length_reverse]; omega
  exact ⟨h.size, by simp only; omega, hl ▸ take_of_take hi, h.pout, h.outp, Nat.le_trans (Nat.sub_le _ _) h.le⟩

theorem Inv.write {T P s rem out} (h : Inv T P s rem out) (v : UInt8) (hlt : s.pin < s.pout) :
    Inv T P ⟨s.dec.setIfInBounds (s.pout - 1) v, s.pin, s.pout - 1⟩ rem (v :: out) := by
  have hq := h.pout
  have hs : s.dec.toList.length = P.length + T := h.size
  have p2 : s.pin ≤ s.pout - 1 := Nat.le_sub_one_of_lt hlt
  have p3 : 0 < s.pout := Nat.zero_lt_of_lt hlt
  obtain ⟨p1, p4⟩ : s.pout - 1 + (out.length + 1) = P.length + T ∧ s.pout ≤ s.dec.toList.length := by omega
  refine ⟨(Array.size_setIfInBounds ..).trans h.size, h.pin, ?_, p1, ?_, p2⟩
  · simp only [Array.toList_setIfInBounds]
    rw [List.take_set_of_le p2, h.inp]
  · simp only [Array.toList_setIfInBounds]
    rw [drop_set_pred v p3 p4, h.outp]

theorem copyOut_length (segOff : Nat) : ∀ (k : Nat) (out : Bytes), (copyOut segOff k out).length = out.length + k
  | 0, _ => rfl
  | k + 1, out => by rw [copyOut, copyOut_length segOff k]; simp; omega

theorem copySeg_pin (segOff : Nat) : ∀ (k : Nat) (s : St), (copySeg s segOff k).pin = s.pin
  | 0, _ => rfl
  | k + 1, s => by rw [copySeg, copySeg_pin segOff k]

theorem copySeg_inv (T : Nat) (P : Bytes) (segOff : Nat) (rem : Bytes) : ∀ (k : Nat) (s : St) (out : Bytes),
    Inv T P s rem out → s.pin + k ≤ s.pout → Inv T P (copySeg s segOff k) rem (copyOut segOff k out)
  | 0, _, _, h, _ => h
  | k + 1, s, out, h, hk => by
    have key : s.dec.getD (s.pout + segOff) 0 = out.getD segOff 0 := by
      rw [getD_toList, ← h.outp]; simp [List.getD_eq_getElem?_getD]
    rw [copySeg, copyOut, key]
    exact copySeg_inv T P segOff rem k _ _ (h.write _ (by omega)) (by simp only; omega)

theorem items_stop (cs de ctrl : Nat) (s : St) (h : s.pin ≤ cs ∨ s.pout ≤ cs) : ∀ i, items cs de ctrl i s = .ok s
  | 0 => rfl
  | i + 1 => by rw [items, if_pos h]

theorem items_lit (cs de ctrl k : Nat) (s : St) (h1 : cs < s.pin ∧ cs < s.pout) (hb : (ctrl >>> k) &&& 1 = 0) :
    items cs de ctrl (k + 1) s =
      items cs de ctrl k ⟨s.dec.setIfInBounds (s.pout - 1) (s.dec.getD (s.pin - 1) 0), s.pin - 1, s.pout - 1⟩ := by
  rw [items, if_neg (by omega), if_neg (by omega)]

theorem items_ref (cs de ctrl k : Nat) (s : St) (off len : Nat) (h1 : cs + 2 ≤ s.pin) (hb : (ctrl >>> k) &&& 1 = 1)
    (hcode : (s.dec.getD (s.pin - 2) 0).toNat + 256 * (s.dec.getD (s.pin - 2 + 1) 0).toNat = off + len * 4096)
    (ho : off < 4096) (hl : len < 16) (h4 : cs + (len + 3) ≤ s.pout) (h5 : s.pout + (off + 2) < de)
    (h6 : s.pout + (off + 2) < s.dec.size) :
    items cs de ctrl (k + 1) s = items cs de ctrl k (copySeg { s with pin := s.pin - 2 } (off + 2) (len + 3)) := by
  obtain ⟨g1, g2, g3, g4⟩ : ¬ (s.pin ≤ cs ∨ s.pout ≤ cs) ∧ ¬ s.pin < 2 ∧ ¬ s.pin - 2 < cs ∧
      ¬ (s.pout < len + 3 ∨ s.pout - (len + 3) < cs) := by omega
  have f1 : (off + len * 4096) &&& 0x0FFF = off := add_mul_and_mask 12 off len ho
  have f2 : ((off + len * 4096) >>> 12) &&& 0xF = len := by
    rw [add_mul_shiftRight 12 off len ho]; exact (Nat.and_two_pow_sub_one_eq_mod len 4).trans (Nat.mod_eq_of_lt hl)
  rw [items, if_neg g1, if_pos hb, if_neg g2]
  simp only [hcode, f1, f2]
  rw [if_neg g3, if_neg g4, if_neg (Nat.not_le.mpr h5), if_neg (Nat.not_le.mpr h6)]

/-- the two bytes of a reference, low byte first, hold `off + len · 4096` -/
theorem ref_code (off len : Nat) (ho : off < 4096) (hl : len < 16) :
    (UInt8.ofNat ((off + 4096 * len) % 256)).toNat + 256 * (UInt8.ofNat ((off + 4096 * len) / 256)).toNat = off + len * 4096 := by
  rw [toNat_ofNat_pair _ (by omega), Nat.mul_comm]

theorem tokBytes_cons (t : Tok) (ts : List Tok) : tokBytes (t :: ts) = t.bytes ++ tokBytes ts := by
  simp [tokBytes]

theorem expandGroup_cons (out : Bytes) (t : Tok) (ts : List Tok) :
    expandGroup out (t :: ts) = expandGroup (expandTok out t) ts := by simp [expandGroup]

theorem expandTok_length (out : Bytes) (t : Tok) : (expandTok out t).length = out.length + t.outLen := by
  cases t <;> simp [expandTok, Tok.outLen, copyOut_length]

theorem tok_step (T : Nat) (P : Bytes) (de c k : Nat) (hde : P.length + T ≤ de) (t : Tok) (s : St) (rem out : Bytes)
    (hinv : Inv T P s (t.bytes ++ rem) out) (hbit : (c >>> k) &&& 1 = t.flag)
    (hst : safeTok T rem.length out.length t = true) :
    ∃ s', Inv T P s' rem (expandTok out t) ∧ items P.length de c (k + 1) s = items P.length de c k s' := by
  have hp := hinv.pin
  have hq := hinv.pout
  have hle := hinv.le
  rw [List.length_append] at hp
  cases t with
  | lit b =>
    simp only [Tok.bytes, List.length_cons, List.length_nil] at hp
    obtain ⟨l1, l2⟩ : (P.length < s.pin ∧ P.length < s.pout) ∧ s.pin - 1 < s.pout := by omega
    exact ⟨_, hinv.pop.write b l2, by
      rw [items_lit _ de c k s l1 hbit, show s.dec.getD (s.pin - 1) 0 = b from hinv.read 0 (by simp [Tok.bytes])]; rfl⟩
  | ref off len =>
    simp only [Tok.bytes, List.length_cons, List.length_nil] at hp
    simp only [safeTok, Bool.and_eq_true, decide_eq_true_eq] at hst
    obtain ⟨⟨⟨hoff, hl⟩, hin⟩, hfit⟩ := hst
    have hlo := hinv.read 0 (by simp [Tok.bytes])
    have hhi := hinv.read 1 (by simp [Tok.bytes])
    simp only [Tok.bytes, List.length_cons, List.length_nil, List.reverse_cons, List.reverse_nil, List.nil_append,
      List.cons_append, List.getD_cons_zero, List.getD_cons_succ, Nat.add_zero] at hlo hhi
    -- the pointer facts of this step, from one call of `omega` (each call pays for the whole context)
    obtain ⟨a1, a2, a4, a5⟩ : P.length + 2 ≤ s.pin ∧ P.length + (len + 3) ≤ s.pout ∧ s.pout + (off + 2) < P.length + T ∧
        s.pin - 2 + (len + 3) ≤ s.pout := by omega
    exact ⟨_, copySeg_inv T P (off + 2) _ (len + 3) _ out hinv.pop a5,
      items_ref _ de c k s off len a1 hbit (by rw [hlo, hhi]; exact ref_code off len hoff hl) hoff hl a2 (Nat.lt_of_lt_of_le a4 hde) (hinv.size ▸ a4)⟩

/-- `i` items of the control byte `c` are left: its low `i` bits are the flags of `ts` -/
theorem items_run (T : Nat) (P : Bytes) (de c : Nat) (hde : P.length + T ≤ de) :
    ∀ (ts : List Tok) (i : Nat) (s : St) (rest out : Bytes),
      ts.length ≤ i → c % 2 ^ i = ctrlOf ts i →
      Inv T P s (tokBytes ts ++ rest) out →
      safeGroup T rest.length ts out.length = true →
      ∃ s', Inv T P s' rest (expandGroup out ts) ∧ items P.length de c i s = items P.length de c (i - ts.length) s'
  | [], i, s, rest, out, _, _, hinv, _ => ⟨s, hinv, rfl⟩
  | _ :: _, 0, _, _, _, h, _, _, _ => by simp at h
  | t :: ts, k + 1, s, rest, out, hlen, hc, hinv, hsafe => by
    have hlen' : ts.length ≤ k := by simpa using hlen
    obtain ⟨hbit, hc'⟩ := bit_step c k _ _ hc (ctrlOf_lt ts k hlen')
    rw [tokBytes_cons, List.append_assoc] at hinv
    simp only [safeGroup, Bool.and_eq_true] at hsafe
    rw [show k + 1 - (t :: ts).length = k - ts.length by simp, expandGroup_cons]
    obtain ⟨s1, h1, e1⟩ := tok_step T P de c k hde t s _ out hinv hbit (by rw [List.length_append]; exact hsafe.1)
    obtain ⟨s2, h2, e2⟩ := items_run T P de c hde ts k s1 rest _ hlen' hc' h1 (by rw [expandTok_length]; exact hsafe.2)
    exact ⟨s2, h2, e1.trans e2⟩

theorem streamOf_cons (g : List Tok) (gs : List (List Tok)) :
    streamOf (g :: gs) = UInt8.ofNat (ctrlOf g 8) :: (tokBytes g ++ streamOf gs) := by
  simp [streamOf, groupBytes]

theorem expand_cons (g : List Tok) (gs : List (List Tok)) (out : Bytes) :
    expand (g :: gs) out = expand gs (expandGroup out g) := by simp [expand]

theorem expandGroup_length : ∀ (g : List Tok) (out : Bytes), (expandGroup out g).length = out.length + groupOut g
  | [], out => by simp [expandGroup, groupOut]
  | t :: ts, out => by
    rw [expandGroup_cons, expandGroup_length ts, expandTok_length]; simp [groupOut]; omega

theorem expand_length : ∀ (gs : List (List Tok)) (out : Bytes), (expand gs out).length = out.length + totalOut gs
  | [], out => by simp [expand, totalOut]
  | g :: gs, out => by
    rw [expand_cons, expand_length gs, expandGroup_length]; simp [totalOut]; omega

theorem length_le_stream : ∀ (gs : List (List Tok)), gs.length ≤ (streamOf gs).length
  | [] => by simp
  | g :: gs => by
    have := length_le_stream gs
    rw [streamOf_cons]; simp; omega

/-- Only the last group may have fewer than eight tokens (`safeGroups`): there the input pointer has reached the head and the
    items left over stop at once. -/
theorem outer_run (T : Nat) (P : Bytes) (de : Nat) (hde : P.length + T ≤ de) :
    ∀ (gs : List (List Tok)) (fuel : Nat) (s : St) (out : Bytes),
      gs.length ≤ fuel → Inv T P s (streamOf gs) out → safeGroups T gs out.length = true →
      ∃ s', outer P.length de fuel s = .ok s' ∧ Inv T P s' [] (expand gs out)
  | [], fuel, s, out, _, hinv, _ => by
    refine ⟨s, ?_, hinv⟩
    have hp : s.pin = P.length := hinv.pin
    cases fuel with
    | zero => rfl
    | succ f => rw [outer, if_neg (by omega)]
  | _ :: _, 0, _, _, h, _, _ => by simp at h
  | g :: gs, f + 1, s, out, hf, hinv, hsafe => by
    simp only [safeGroups, Bool.and_eq_true, decide_eq_true_eq, Bool.or_eq_true] at hsafe
    obtain ⟨⟨⟨⟨⟨h1, h8⟩, hlast⟩, hfit⟩, hsg⟩, hrest⟩ := hsafe
    rw [streamOf_cons] at hinv
    have hinv' : Inv T P s ([UInt8.ofNat (ctrlOf g 8)] ++ (tokBytes g ++ streamOf gs)) out := hinv
    have hp := hinv.pin
    have hq := hinv.pout
    have hle := hinv.le
    simp only [List.length_cons, List.length_append] at hp
    have hc8 := ctrlOf_lt g 8 h8
    obtain ⟨c1, c3⟩ : (s.pin > P.length ∧ s.pout > P.length) ∧ ¬ s.pin - 1 ≥ P.length + T := by omega
    rw [outer, if_pos c1, if_neg (Nat.not_lt.mpr hle)]
    rw [if_neg (hinv.size ▸ c3), show s.dec.getD (s.pin - 1) 0 = _ from hinv'.read 0 (by simp)]
    simp only [List.reverse_cons, List.reverse_nil, List.nil_append, List.getD_cons_zero, UInt8.toNat_ofNat_of_lt' hc8]
    obtain ⟨s', hi', hit⟩ := items_run T P de (ctrlOf g 8) hde g 8 { s with pin := s.pin - 1 } (streamOf gs) out h8
      (Nat.mod_eq_of_lt hc8) hinv'.pop hsg
    have hfin : items P.length de (ctrlOf g 8) (8 - g.length) s' = .ok s' := by
      rcases hlast with he | h8eq
      · have : gs = [] := by simpa using he
        subst this
        exact items_stop _ de _ s' (Or.inl (Nat.le_of_eq hi'.pin)) _
      · rw [h8eq]; rfl
    rw [hit, hfin]
    exact outer_run T P de hde gs f s' (expandGroup out g) (by simpa using hf) hi'
      (by rw [expandGroup_length]; exact hrest)

/-- the two words of the footer as `decompress` cuts them out: `code[-8:-4]` and `code[-4:n]`, `n` the length of the image
    (the model's stop index, hence a parameter here) -/
theorem footer_words (A f1 f2 : Bytes) (n : Nat) (h1 : f1.length = 4) (h2 : f2.length = 4) (hn : A.length + 8 = n) :
    pySlice (A ++ f1 ++ f2) (-8) (-4) = f1 ∧ pySlice (A ++ f1 ++ f2) (-4) (n : Int) = f2 := by
  subst hn
  have hl : (A ++ f1 ++ f2).length = A.length + 8 := by simp [h1, h2]
  simp only [pySlice, hl, pyIdx_neg _ _ (show (-8 : Int) < 0 by decide), pyIdx_neg _ _ (show (-4 : Int) < 0 by decide),
    pyIdx_nat]
  rw [show ((A.length + 8 : Nat) + (-8 : Int)).toNat = A.length + 0 by omega,
    show ((A.length + 8 : Nat) + (-4 : Int)).toNat = (A ++ f1).length + 0 by simp [h1]; omega,
    slice_append_right, List.append_assoc, slice_append_right, slice_append_left _ _ _ _ (by simp)]
  exact ⟨slice_all _ _ (by simp [h1]), slice_all _ _ (by simp only [List.length_append, h1, h2]; omega)⟩

/-- `cs` is where the compressed region starts, `ce + hdr` its length (`hdr` bytes of padding and footer at its end), `T` what
    it decodes to -/
theorem decompress_image (A : Bytes) (cs ce hdr add T : Nat) (hA : A.length + 8 = cs + (ce + hdr)) (hT : ce + hdr + add = T)
    (hc : ce + hdr < 2 ^ 24) (hh : hdr < 0xFF) (ha : add < 2 ^ 32) (hm : cs + T ≤ codeMaxSize) :
    decompress (A ++ toLE 4 (ce + hdr + hdr * 2 ^ 24) ++ toLE 4 add) =
      match outer cs (cs + (cs + T)) (cs + (ce + hdr) + 1)
          ⟨(A ++ toLE 4 (ce + hdr + hdr * 2 ^ 24) ++ toLE 4 add ++ zeros add).toArray, cs + ce, cs + T⟩ with
      | .error e => .error e
      | .ok s =>
        if s.pin ≠ cs then .error (err "ptr_in != comp_start")
        else if s.pout ≠ cs then .error (err "ptr_out != comp_start")
        else .ok s.dec.toList := by
  have hcm : codeMaxSize = 0x2300000 := rfl
  -- before the bit-field facts enter the context: `omega` pays for every `/` and `%` it finds there
  obtain ⟨d1, d4⟩ : ce + hdr + hdr * 2 ^ 24 < 256 ^ 4 ∧ ¬ cs + (ce + hdr) > codeMaxSize := by omega
  have d3 : ¬ cs + (ce + hdr) < 8 := hA ▸ Nat.not_lt.mpr (Nat.le_add_left 8 _)
  have l1 := toLE_length 4 (ce + hdr + hdr * 2 ^ 24)
  have l2 := toLE_length 4 add
  obtain ⟨w1, w2⟩ := footer_words A _ _ _ l1 l2 hA
  have hn : (A ++ toLE 4 (ce + hdr + hdr * 2 ^ 24) ++ toLE 4 add).length = cs + (ce + hdr) := by
    rw [List.length_append, List.length_append, l1, l2, ← hA]
  have hcomp : (ce + hdr + hdr * 2 ^ 24) &&& 0xFFFFFF = ce + hdr := add_mul_and_mask 24 _ hdr hc
  have hhdr : ((ce + hdr + hdr * 2 ^ 24) >>> 24) % 0xFF = hdr := by
    rw [add_mul_shiftRight 24 _ hdr hc]; exact Nat.mod_eq_of_lt hh
  dsimp only [decompress]
  rw [hn, w1, w2, readLE_toLE 4 _ d1, readLE_toLE 4 _ ha, hcomp, hhdr, Nat.add_assoc cs, hT, if_neg d3, if_neg d4,
    if_neg (Nat.not_lt.mpr (Nat.le_add_left _ cs)), if_neg (Nat.not_lt.mpr (Nat.le_add_left hdr ce)), if_neg (Nat.not_lt.mpr hm),
    Nat.add_sub_cancel, Nat.add_sub_cancel]
  rfl

theorem decompress_encode (P : Bytes) (gs : List (List Tok)) (pad : Nat) (hv : validB P gs pad = true) :
    decompress (encodeFile P gs pad) = .ok (P ++ expand gs []) := by
  simp only [validB, Bool.and_eq_true, decide_eq_true_eq, Nat.add_assoc] at hv
  obtain ⟨⟨⟨⟨hsafe, hpad⟩, hc24⟩, hcT⟩, hmax⟩ := hv
  have hel : (expand gs []).length = totalOut gs := (expand_length gs []).trans (Nat.zero_add _)
  have hgl := length_le_stream gs
  -- `D`: what decompression adds to the length of the image
  obtain ⟨D, hD⟩ : ∃ D, (streamOf gs).length + (8 + pad) + D = totalOut gs := ⟨_, Nat.add_sub_cancel' hcT⟩
  rw [encodeFile, Nat.add_assoc _ 8 pad, ← hD, Nat.add_sub_cancel_left]
  generalize totalOut gs = T at *
  have hcm : codeMaxSize = 0x2300000 := rfl
  obtain ⟨b1, b2, b3, b4⟩ : 8 + pad < 0xFF ∧ D < 2 ^ 32 ∧ P.length + (streamOf gs).length ≤ P.length + T ∧
      gs.length ≤ P.length + ((streamOf gs).length + (8 + pad)) + 1 := by omega
  have hAl : (P ++ (streamOf gs).reverse ++ List.replicate pad 0xFF).length + 8 = P.length + ((streamOf gs).length + (8 + pad)) := by
    simp only [List.length_append, List.length_reverse, List.length_replicate, Nat.add_assoc, Nat.add_comm pad 8]
  rw [decompress_image _ P.length (streamOf gs).length (8 + pad) D T hAl hD hc24 b1 b2 hmax]
  generalize hR : toLE 4 ((streamOf gs).length + (8 + pad) + (8 + pad) * 2 ^ 24) ++ toLE 4 D ++ zeros D = R
  have hl : (P ++ (streamOf gs).reverse ++ List.replicate pad 0xFF ++ R).length = P.length + T := by
    simp only [← hR, List.length_append, List.length_reverse, List.length_replicate, toLE_length, zeros_length]; omega
  simp only [List.append_assoc] at hR hl ⊢
  rw [hR]
  obtain ⟨s', hrun, hi⟩ := outer_run T P (P.length + (P.length + T)) (Nat.le_add_left _ _) gs
    (P.length + ((streamOf gs).length + (8 + pad)) + 1)
    ⟨(P ++ ((streamOf gs).reverse ++ (List.replicate pad 0xFF ++ R))).toArray, P.length + (streamOf gs).length, P.length + T⟩ [] b4
    ⟨hl, rfl, by rw [← List.append_assoc]; exact List.take_left' (by simp), rfl,
      List.drop_eq_nil_of_le (Nat.le_of_eq hl), b3⟩ hsafe
  rw [hrun]
  have hp : s'.pin = P.length := hi.pin
  have hq : s'.pout = P.length := Nat.add_right_cancel (hi.pout.trans (congrArg _ hel.symm))
  have hout := hi.outp
  have hin := hi.inp
  rw [hp, List.reverse_nil, List.append_nil] at hin
  rw [hq] at hout
  simp only [hp, hq, ne_eq, not_true_eq_false, if_false]
  rw [← List.take_append_drop P.length s'.dec.toList, hin, hout]

end Lzss
end Pyctr
