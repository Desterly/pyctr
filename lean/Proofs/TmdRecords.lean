/-
  TMD: the two bit-packed words (title version, content-type flags), `struct.pack('Ns')`, and the chunk and info records.
-/
import Proofs.BitFields
import PyctrModel.Fmt.Tmd
import Proofs.BytesLemmas
namespace Pyctr
namespace Tmd

theorem Version.ofInt_eq (w : Nat) : Version.ofInt w = ⟨w / 1024 % 64, w / 16 % 64, w % 16⟩ := by
  simp only [Version.ofInt, Nat.and_two_pow_sub_one_eq_mod _ 6, Nat.and_two_pow_sub_one_eq_mod _ 4,
    Nat.shiftRight_eq_div_pow]

theorem Version.toInt_eq (v : Version) (h1 : v.minor < 64) (h2 : v.micro < 16) :
    v.toInt = v.major * 1024 + v.minor * 16 + v.micro := by
  have e1 := Nat.shiftLeft_add_eq_or_of_lt (i := 4) h2 v.minor
  have e2 := Nat.shiftLeft_add_eq_or_of_lt (i := 10) (b := v.minor <<< 4 + v.micro) (by omega) v.major
  rw [Version.toInt, Nat.or_assoc, ← e1, ← e2]; omega

theorem Version.ofInt_toInt (v : Version) (h1 : v.major < 64) (h2 : v.minor < 64) (h3 : v.micro < 16) :
    Version.ofInt v.toInt = v := by
  have e : v.toInt = v.micro + (v.minor + v.major * 2 ^ 6) * 2 ^ 4 := by rw [Version.toInt_eq _ h2 h3]; simp +arith only
  rw [Version.ofInt, e, show (10 : Nat) = 4 + 6 from rfl, Nat.shiftRight_add, add_mul_shiftRight 4 _ _ h3, add_mul_and_mask 4 _ _ h3,
    add_mul_and_mask 6 _ _ h2, add_mul_shiftRight 6 _ _ h2, Nat.and_two_pow_sub_one_eq_mod _ 6, Nat.mod_eq_of_lt h1]

theorem Version.toInt_ofInt (w : Nat) (h : w < 65536) : (Version.ofInt w).toInt = w := by
  rw [Version.ofInt_eq, Version.toInt_eq _ (Nat.mod_lt _ (by decide)) (Nat.mod_lt _ (by decide))]
  have h1 : w / 1024 % 64 = w / 1024 := Nat.mod_eq_of_lt (Nat.div_lt_of_lt_mul h)
  -- `w` split at 16 and at 1024
  conv => rhs; rw [← Nat.div_add_mod w 16, ← Nat.div_add_mod (w / 16) 64, Nat.div_div_eq_div_mul]
  rw [h1]; simp +arith only

theorem TypeFlags.toInt_eq (f : TypeFlags) : f.toInt =
    f.encrypted.toNat + 2 * f.disc.toNat + 4 * f.cfm.toNat + 16384 * f.optional.toNat + 32768 * f.shared.toNat := by
  -- each flag is or-ed in above what is there already
  have h1 : f.encrypted.toNat < 2 ^ 1 := f.encrypted.toNat_lt
  have h2 := add_bit_lt 1 _ f.disc h1
  have h3 := add_bit_lt 2 _ f.cfm h2
  have h14 := Nat.lt_trans h3 (show 2 ^ (2 + 1) < 2 ^ 14 by decide)
  have h15 := add_bit_lt 14 _ f.optional h14
  rw [TypeFlags.toInt, Nat.shiftLeft_eq, Nat.shiftLeft_eq, Nat.shiftLeft_eq, Nat.shiftLeft_eq,
    or_bit 1 _ _ h1, or_bit 2 _ _ h2, or_bit 14 _ _ h14, or_bit 15 _ _ h15]
  omega

theorem TypeFlags.ofInt_toInt (f : TypeFlags) : TypeFlags.ofInt f.toInt = f := by
  obtain ⟨a, b, c, d, e⟩ := f
  -- bits 3 to 13 are not flags
  have hw : TypeFlags.toInt ⟨a, b, c, d, e⟩ =
      ofBits [a, b, c, false, false, false, false, false, false, false, false, false, false, false, d, e] 0 := by
    simp only [TypeFlags.toInt_eq, ofBits, Bool.toNat_false]; simp +arith only
  simp only [TypeFlags.ofInt, hw, TypeFlags.mk.injEq]
  exact ⟨ofBits_test _ 0 0, ofBits_test _ 0 1, ofBits_test _ 0 2, ofBits_test _ 0 14, ofBits_test _ 0 15⟩

theorem TypeFlags.toInt_lt (f : TypeFlags) : f.toInt < 2 ^ 16 := by
  have := f.encrypted.toNat_le; have := f.disc.toNat_le; have := f.cfm.toNat_le
  have := f.optional.toNat_le; have := f.shared.toNat_le
  rw [TypeFlags.toInt_eq]; omega

/-- `from_int` reads the five defined bits and `__int__` writes them back: the undefined bits 3–13 are lost -/
theorem TypeFlags.toInt_ofInt (w : Nat) : (TypeFlags.ofInt w).toInt = w % 8 + w / 16384 % 4 * 16384 := by
  rw [TypeFlags.toInt_eq]
  simp only [TypeFlags.ofInt]
  -- both sides as sums of the same five binary digits of `w`; what is left is a linear identity (`omega` on the goal as it
  -- stands looks for the digits inside `w`, at many times the price)
  rw [toNat_and_two_pow_ne_zero w 0, toNat_and_two_pow_ne_zero w 1, toNat_and_two_pow_ne_zero w 2,
    toNat_and_two_pow_ne_zero w 14, toNat_and_two_pow_ne_zero w 15,
    show w % 8 = w % 2 ^ (0 + 1 + 1 + 1) from rfl, show w / 16384 % 4 = w / 2 ^ 14 % 2 ^ (0 + 1 + 1) from rfl,
    Nat.mod_pow_succ, Nat.mod_pow_succ, Nat.mod_pow_succ, Nat.mod_pow_succ, Nat.mod_pow_succ]
  simp +arith only [Nat.pow_zero, Nat.mod_one, Nat.div_div_eq_div_mul]

theorem packS_length (n : Nat) (b : Bytes) : (packS n b).length = n := by
  simp [packS]; omega

theorem packS_full (n : Nat) (b : Bytes) (h : b.length = n) : packS n b = b := by
  simp [packS, h, zeros, List.take_of_length_le (Nat.le_of_eq h)]

theorem packS_short (n : Nat) (b : Bytes) (h : b.length ≤ n) : packS n b = b ++ zeros (n - b.length) := by
  simp [packS, List.take_of_length_le h]

theorem rstripNul_append_zeros (n : Bytes) (k : Nat) (h : ∀ b, n.getLast? = some b → b ≠ 0) : rstripNul (n ++ zeros k) = n :=
  rstrip_append_replicate 0 n k h

theorem chunkList_length (raw : Bytes) : ∀ n i, (chunkList raw n i).length = n
  | 0, _ => rfl
  | n + 1, i => by simp [chunkList, chunkList_length raw n (i + 1)]

structure WfChunk (r : ChunkRecord) : Prop where
  id_len : r.id.length = 4
  cindex_lt : r.cindex < 2 ^ 16
  size_lt : r.size < 2 ^ 64
  hash_len : r.hash.length = 32

theorem ChunkRecord.bytes_length (r : ChunkRecord) (h : WfChunk r) : r.bytes.length = 0x30 := by
  simp [ChunkRecord.bytes, toBE_length, h.id_len, h.hash_len]

theorem ChunkRecord.ofBytes_bytes (r : ChunkRecord) (h : WfChunk r) : ChunkRecord.ofBytes r.bytes = r := by
  have L : Laid r.bytes 0 [r.id, toBE 2 r.cindex, toBE 2 r.type.toInt, toBE 8 r.size, r.hash] :=
    .of_flatten (by simp [ChunkRecord.bytes])
  simp only [Laid, h.id_len, h.hash_len, toBE_length, Nat.zero_add, Nat.reduceAdd] at L
  simp only [ChunkRecord.ofBytes, L,
    readBE_toBE 2 _ h.cindex_lt, readBE_toBE 2 _ r.type.toInt_lt,
    readBE_toBE 8 _ h.size_lt, TypeFlags.ofInt_toInt]

theorem chunkList_flatMap (cs : List ChunkRecord) (hwf : ∀ c ∈ cs, WfChunk c) (n i : Nat) (h : i + n = cs.length) :
    chunkList (cs.flatMap ChunkRecord.bytes) n i = cs.drop i := by
  induction n generalizing i with
  | zero => simp [chunkList, show i = cs.length by omega]
  | succ m ih =>
    have hi : i < cs.length := by omega
    simp only [chunkList]
    have := slice_flatMap_const ChunkRecord.bytes 0x30 cs [] (fun x hx => ChunkRecord.bytes_length x (hwf x hx)) i hi
    rw [List.append_nil] at this
    rw [this, ChunkRecord.ofBytes_bytes _ (hwf _ (List.getElem_mem hi)), ih (i + 1) (by omega)]
    exact (List.getElem_cons_drop hi)

structure WfInfo (r : InfoRecord) : Prop where
  io_lt : r.indexOffset < 2 ^ 16
  cc_lt : r.commandCount < 2 ^ 16
  hash_len : r.hash.length = 32
  nonzero : r.bytes ≠ zeros 0x24

theorem InfoRecord.bytes_length (r : InfoRecord) (h : WfInfo r) : r.bytes.length = 0x24 := by
  simp [InfoRecord.bytes, toBE_length, h.hash_len]

theorem InfoRecord.fields_of_bytes (r : InfoRecord) (h : WfInfo r) :
    (⟨readBE (slice r.bytes 0 2), readBE (slice r.bytes 2 2), slice r.bytes 4 32⟩ : InfoRecord) = r := by
  have L : Laid r.bytes 0 [toBE 2 r.indexOffset, toBE 2 r.commandCount, r.hash] :=
    .of_flatten (by simp [InfoRecord.bytes])
  simp only [Laid, h.hash_len, toBE_length, Nat.zero_add, Nat.reduceAdd] at L
  obtain ⟨h1, h2, h3, -⟩ := L
  rw [h1, h2, h3, readBE_toBE 2 _ h.io_lt, readBE_toBE 2 _ h.cc_lt]

theorem infoList_block (rs : List InfoRecord) (hwf : ∀ r ∈ rs, WfInfo r) (hlen : rs.length ≤ 64)
    (n i : Nat) (h : i + n = 64) : infoList (infoBlock rs) n i = rs.drop i := by
  have hl := length_flatMap_const _ 0x24 rs (fun r hr => InfoRecord.bytes_length r (hwf r hr))
  induction n generalizing i with
  | zero => simp [infoList]; omega
  | succ m ih =>
    simp only [infoList]
    by_cases hi : i < rs.length
    · have hw := hwf rs[i] (List.getElem_mem hi)
      have hs : slice (infoBlock rs) (0x24 * i) 0x24 = rs[i].bytes :=
        slice_flatMap_const InfoRecord.bytes 0x24 rs _ (fun r hr => InfoRecord.bytes_length r (hwf r hr)) i hi
      have hnz : (rs[i].bytes == zeros 0x24) = false := by simpa using hw.nonzero
      simp only [hs, hnz, Bool.false_eq_true, if_false, InfoRecord.fields_of_bytes _ hw]
      rw [ih (i + 1) (by omega)]
      exact List.getElem_cons_drop hi
    · have hs : slice (infoBlock rs) (0x24 * i) 0x24 = zeros 0x24 := by
        unfold infoBlock
        rw [slice_append_right' _ _ _ (0x24 * (i - rs.length)) _ (by rw [hl]; omega), slice_zeros _ _ _ (by rw [hl]; omega)]
      simp only [hs, beq_self_eq_true, if_true]
      rw [ih (i + 1) (by omega), List.drop_of_length_le (by omega), List.drop_of_length_le (by omega)]

end Tmd
end Pyctr
