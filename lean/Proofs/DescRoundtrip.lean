/-
  Save partition descriptors, value → bytes → value: the DIFI / IVFC / DPFS records field by field (`Laid`), and the partition
  descriptor as a whole (DIFI + IVFC + DPFS + master hashes laid into a zero-filled array at the offsets the DIFI header names).
-/
import Proofs.BytesLemmas
import PyctrModel.Save.Spec
namespace Pyctr
namespace Save

theorem assign_eq_overlay (d : Bytes) (a : Nat) (w : Bytes) (h : a ≤ d.length) : assign d a w = overlay d a w := by
  unfold assign overlay
  rw [show a - d.length = 0 by omega]
  simp [zeros]

theorem assign_spec (d : Bytes) (a : Nat) (w : Bytes) (h : a + w.length ≤ d.length) :
    (assign d a w).length = d.length ∧ slice (assign d a w) a w.length = w ∧
      ∀ b n, b + n ≤ a ∨ a + w.length ≤ b → slice (assign d a w) b n = slice d b n := by
  rw [assign_eq_overlay _ _ _ (by omega)]
  exact ⟨overlay_length_inside _ _ _ h, slice_overlay_same _ _ _, fun b n hd => slice_overlay_outside _ _ _ _ _ hd (Or.inl (by omega))⟩

theorem Level.toBytes_length (l : Level) : l.toBytes.length = 0x18 := by simp [Level.toBytes]

theorem levelAt_of_slice (d : Bytes) (off : Nat) (l : Level) (hf : l.fits) (h : slice d off 0x18 = l.toBytes) :
    levelAt d off = l := by
  have L : Laid l.toBytes 0 [toLE 8 l.offset, toLE 8 l.size, toLE 4 l.log2, [0, 0, 0, 0]] :=
    .of_flatten (by simp [Level.toBytes])
  simp only [← h, Laid, toLE_length, Nat.zero_add, Nat.reduceAdd] at L
  obtain ⟨h1, h2, h3, -⟩ := L
  rw [slice_slice _ _ _ _ _ (by omega)] at h1 h2 h3
  rw [Nat.add_zero] at h1
  obtain ⟨a, b, c⟩ := hf
  simp only [levelAt, le, h1, h2, h3, readLE_toLE 8 _ a, readLE_toLE 8 _ b, readLE_toLE 4 _ c]

theorem dpfs_roundtrip (x : Dpfs) (b : Bytes) (h : x.toBytes = some b)
    (hs : x.lv1.sane = true ∧ x.lv2.sane = true ∧ x.lv3.sane = true) : Dpfs.fromBytes b = .ok x := by
  unfold Dpfs.toBytes at h
  split at h
  · rename_i hf
    have L := Laid.record (b := b) (segs := [dpfsMagic, x.lv1.toBytes, x.lv2.toBytes, x.lv3.toBytes])
      (by rw [← Option.some.inj h]; simp only [List.flatten_cons, List.flatten_nil, List.append_nil, List.append_assoc])
    simp only [Laid, List.map_cons, List.map_nil, List.sum_cons, List.sum_nil, Level.toBytes_length,
      show dpfsMagic.length = 8 from rfl, Nat.zero_add, Nat.add_zero, Nat.reduceAdd] at L
    obtain ⟨⟨hm, l1, l2, l3, -⟩, hlen⟩ := L
    rw [Dpfs.fromBytes, if_neg (Classical.not_not.mpr hm), if_neg (Classical.not_not.mpr hlen),
      levelAt_of_slice _ _ _ hf.1 l1, levelAt_of_slice _ _ _ hf.2.1 l2, levelAt_of_slice _ _ _ hf.2.2 l3,
      if_neg (by simp [hs.1, hs.2.1, hs.2.2])]
  · cases h

theorem ivfc_roundtrip (x : Ivfc) (b : Bytes) (h : x.toBytes = some b)
    (hs : x.lv1.sane = true ∧ x.lv2.sane = true ∧ x.lv3.sane = true ∧ x.lv4.sane = true) : Ivfc.fromBytes b = .ok x := by
  unfold Ivfc.toBytes at h
  split at h
  · rename_i hf
    obtain ⟨hm, f1, f2, f3, f4, hd⟩ := hf
    have L := Laid.record (b := b) (segs := [ivfcMagic, toLE 8 x.masterHashSize, x.lv1.toBytes, x.lv2.toBytes, x.lv3.toBytes,
        x.lv4.toBytes, toLE 8 x.descSize])
      (by rw [← Option.some.inj h]; simp only [List.flatten_cons, List.flatten_nil, List.append_nil, List.append_assoc])
    simp only [Laid, List.map_cons, List.map_nil, List.sum_cons, List.sum_nil, Level.toBytes_length, toLE_length,
      show ivfcMagic.length = 8 from rfl, Nat.zero_add, Nat.add_zero, Nat.reduceAdd] at L
    obtain ⟨⟨hmg, hmh, l1, l2, l3, l4, hds, -⟩, hlen⟩ := L
    rw [Ivfc.fromBytes, if_neg (Classical.not_not.mpr hmg), if_neg (Classical.not_not.mpr hlen),
      levelAt_of_slice _ _ _ f1 l1, levelAt_of_slice _ _ _ f2 l2, levelAt_of_slice _ _ _ f3 l3, levelAt_of_slice _ _ _ f4 l4,
      if_neg (by simp [hs.1, hs.2.1, hs.2.2.1, hs.2.2.2])]
    simp only [le, hmh, hds, readLE_toLE 8 _ hm, readLE_toLE 8 _ hd]
  · cases h

theorem difi_roundtrip (x : Difi) (b : Bytes) (h : x.toBytes = some b) : Difi.fromBytes b = .ok x := by
  unfold Difi.toBytes at h
  split at h
  · cases h
  · rename_i hf
    simp only [not_or, Nat.not_le] at hf
    obtain ⟨h1, h2, h3, h4, h5, h6, h7, h8⟩ := hf
    have L := Laid.record (b := b) (segs := [difiMagic, toLE 8 x.ivfcOffset, toLE 8 x.ivfcSize, toLE 8 x.dpfsOffset,
        toLE 8 x.dpfsSize, toLE 8 x.hashOffset, toLE 8 x.hashSize, [if x.externalLv4 then 1 else 0], [UInt8.ofNat x.selector],
        [0, 0], toLE 8 x.externalOffset])
      (by rw [← Option.some.inj h]; simp only [List.flatten_cons, List.flatten_nil, List.append_nil, List.append_assoc])
    simp only [Laid, List.map_cons, List.map_nil, List.sum_cons, List.sum_nil, toLE_length, show difiMagic.length = 8 from rfl,
      List.length_cons, List.length_nil, Nat.zero_add, Nat.add_zero, Nat.reduceAdd] at L
    obtain ⟨⟨hm, s1, s2, s3, s4, s5, s6, s7, s8, -, s10, -⟩, hlen⟩ := L
    have e1 : ((if x.externalLv4 = true then (1 : UInt8) else 0) != 0) = x.externalLv4 := by cases x.externalLv4 <;> rfl
    have e2 : (UInt8.ofNat x.selector).toNat = x.selector := by simp only [UInt8.toNat_ofNat']; exact Nat.mod_eq_of_lt h7
    rw [Difi.fromBytes, if_neg (Classical.not_not.mpr hm), if_neg (Classical.not_not.mpr hlen)]
    simp only [le, getD_eq_slice, s1, s2, s3, s4, s5, s6, s7, s8, s10, List.headD_cons, e1, e2, readLE_toLE 8 _ h1,
      readLE_toLE 8 _ h2, readLE_toLE 8 _ h3, readLE_toLE 8 _ h4, readLE_toLE 8 _ h5, readLE_toLE 8 _ h6, readLE_toLE 8 _ h8]

theorem difi_toBytes_length (x : Difi) (b : Bytes) (h : x.toBytes = some b) : b.length = 0x44 := by
  unfold Difi.toBytes at h
  split at h
  · cases h
  · simp only [Option.some.injEq] at h
    subst h
    simp only [List.length_append, toLE_length, show difiMagic.length = 8 from rfl, List.length_cons, List.length_nil]

theorem ivfc_toBytes_length (x : Ivfc) (b : Bytes) (h : x.toBytes = some b) : b.length = 0x78 := by
  unfold Ivfc.toBytes at h
  split at h
  · simp only [Option.some.injEq] at h
    subst h
    simp only [List.length_append, Level.toBytes_length, toLE_length, show ivfcMagic.length = 8 from rfl]
  · cases h

theorem dpfs_toBytes_length (x : Dpfs) (b : Bytes) (h : x.toBytes = some b) : b.length = 0x50 := by
  unfold Dpfs.toBytes at h
  split at h
  · simp only [Option.some.injEq] at h
    subst h
    simp only [List.length_append, Level.toBytes_length, show dpfsMagic.length = 8 from rfl]
  · cases h

theorem splitHashes_flatten : ∀ (l : List Bytes) (pre rest : Bytes), (∀ h ∈ l, h.length = 0x20) →
    splitHashes (pre ++ l.flatten ++ rest) l.length pre.length = l := by
  intro l
  induction l with
  | nil => intro _ _ _; rfl
  | cons a l ih =>
    intro pre rest hl
    have ha : a.length = 0x20 := hl a (List.mem_cons_self)
    show slice _ pre.length 0x20 :: splitHashes _ l.length (pre.length + 0x20) = a :: l
    congr 1
    · rw [List.flatten_cons, List.append_assoc, List.append_assoc, slice_append_right' _ _ _ 0 _ (Nat.add_zero _).symm, ← ha, slice_prefix]
    · have := ih (pre ++ a) rest fun h hh => hl h (List.mem_cons_of_mem _ hh)
      rw [List.length_append, ha] at this
      rw [List.flatten_cons, ← List.append_assoc pre a]
      exact this

/-- the four fields of a descriptor lie inside its `size` bytes and do not overlap; the hash list is whole.  With I = IVFC record,
    D = DPFS record, H = master hashes: `inX`, X ends inside `size`; `aX`, X starts after the 0x44-byte DIFI header; `XY`, X and Y
    are apart -/
structure DescWF (x : PartDesc) (size : Nat) : Prop where
  ivfcSize : x.difi.ivfcSize = 0x78
  dpfsSize : x.difi.dpfsSize = 0x50
  hashSize : x.difi.hashSize = 0x20 * x.master.length
  hashLen : ∀ h ∈ x.master, h.length = 0x20
  saneI : x.ivfc.lv1.sane = true ∧ x.ivfc.lv2.sane = true ∧ x.ivfc.lv3.sane = true ∧ x.ivfc.lv4.sane = true
  saneD : x.dpfs.lv1.sane = true ∧ x.dpfs.lv2.sane = true ∧ x.dpfs.lv3.sane = true
  inI : x.difi.ivfcOffset + 0x78 ≤ size
  inD : x.difi.dpfsOffset + 0x50 ≤ size
  inH : x.difi.hashOffset + 0x20 * x.master.length ≤ size
  aI : 0x44 ≤ x.difi.ivfcOffset
  aD : 0x44 ≤ x.difi.dpfsOffset
  aH : 0x44 ≤ x.difi.hashOffset
  ID : x.difi.ivfcOffset + 0x78 ≤ x.difi.dpfsOffset ∨ x.difi.dpfsOffset + 0x50 ≤ x.difi.ivfcOffset
  IH : x.difi.ivfcOffset + 0x78 ≤ x.difi.hashOffset ∨ x.difi.hashOffset + 0x20 * x.master.length ≤ x.difi.ivfcOffset
  DH : x.difi.dpfsOffset + 0x50 ≤ x.difi.hashOffset ∨ x.difi.hashOffset + 0x20 * x.master.length ≤ x.difi.dpfsOffset

theorem descWF_of_b (x : PartDesc) (size : Nat) (h : descWFB x size = true) : DescWF x size := by
  unfold descWFB at h
  simp only [Bool.and_eq_true, decide_eq_true_eq, List.all_eq_true, and_assoc] at h
  obtain ⟨a1, a2, a3, a4, i1, i2, i3, i4, d1, d2, d3, b1, b2, b3, c1, c2, c3, e1, e2, e3⟩ := h
  exact ⟨a1, a2, a3, a4, ⟨i1, i2, i3, i4⟩, ⟨d1, d2, d3⟩, b1, b2, b3, c1, c2, c3, e1, e2, e3⟩

theorem DescWF.of_master {d : Difi} {i : Ivfc} {f : Dpfs} {m m' : List Bytes} {sz : Nat} (wf : DescWF ⟨d, i, f, m⟩ sz)
    (hl : m'.length = m.length) (hm : ∀ x ∈ m', x.length = 0x20) : DescWF ⟨d, i, f, m'⟩ sz :=
  { wf with
    hashLen := hm
    hashSize := by simp only; rw [hl]; exact wf.hashSize
    inH := by simp only; rw [hl]; exact wf.inH
    IH := by simp only; rw [hl]; exact wf.IH
    DH := by simp only; rw [hl]; exact wf.DH }

/-- **descriptor round trip**: `load_partdesc(partdesc_to_bytes(x)) = x` for a well-formed descriptor -/
theorem partdesc_roundtrip (x : PartDesc) (size : Nat) (pd : Bytes) (wf : DescWF x size)
    (h : partdescToBytes x size = some pd) : pd.length = size ∧ loadPartdesc pd = .ok x := by
  unfold partdescToBytes at h
  cases ha : x.difi.toBytes with
  | none => rw [ha] at h; cases h
  | some a =>
  cases hb : x.ivfc.toBytes with
  | none => rw [ha, hb] at h; cases h
  | some b =>
  cases hc : x.dpfs.toBytes with
  | none => rw [ha, hb, hc] at h; cases h
  | some c =>
  rw [ha, hb, hc] at h
  simp only [Option.some.injEq] at h
  have la := difi_toBytes_length _ _ ha
  have lb := ivfc_toBytes_length _ _ hb
  have lc := dpfs_toBytes_length _ _ hc
  have lm : x.master.flatten.length = 0x20 * x.master.length := by
    rw [length_flatten_const _ _ wf.hashLen, Nat.mul_comm]
  have hsz : 0x44 ≤ size := by have := wf.inI; have := wf.aI; omega
  generalize hm : x.master.flatten = m at h lm
  -- the four fields are laid into the zero array one after the other (`p0`, `p1`, `p2`, `pd`); by the layout conditions of `DescWF`
  -- each later `assign` stays clear of the fields laid before, so each field reads back (`e1 … e4`) and the four parsers apply
  obtain ⟨l0, s0, -⟩ := assign_spec (zeros size) 0 a (by simp [zeros_length]; omega)
  generalize assign (zeros size) 0 a = p0 at h s0 l0
  rw [zeros_length] at l0
  obtain ⟨l1, s1, o1⟩ := assign_spec p0 x.difi.ivfcOffset b (by rw [l0, lb]; exact wf.inI)
  generalize assign p0 x.difi.ivfcOffset b = p1 at h s1 l1 o1
  obtain ⟨l2, s2, o2⟩ := assign_spec p1 x.difi.dpfsOffset c (by rw [l1, l0, lc]; exact wf.inD)
  generalize assign p1 x.difi.dpfsOffset c = p2 at h s2 l2 o2
  obtain ⟨l3, s3, o3⟩ := assign_spec p2 x.difi.hashOffset m (by rw [l2, l1, l0, lm]; exact wf.inH)
  rw [h] at s3 l3 o3
  have e1 : slice pd 0 0x44 = a := by
    rw [o3 0 0x44 (Or.inl wf.aH), o2 0 0x44 (Or.inl wf.aD), o1 0 0x44 (Or.inl wf.aI), ← la]
    exact s0
  have e2 : slice pd x.difi.ivfcOffset 0x78 = b := by
    rw [o3 _ 0x78 (by rw [lm]; exact wf.IH), o2 _ 0x78 (by rw [lc]; exact wf.ID), ← lb]
    exact s1
  have e3 : slice pd x.difi.dpfsOffset 0x50 = c := by
    rw [o3 _ 0x50 (by rw [lm]; exact wf.DH), ← lc]
    exact s2
  have e4 : slice pd x.difi.hashOffset (0x20 * x.master.length) = m := by rw [← lm]; exact s3
  refine ⟨by rw [l3, l2, l1, l0], ?_⟩
  unfold loadPartdesc
  rw [e1, difi_roundtrip _ _ ha]
  simp only
  rw [wf.ivfcSize, e2, ivfc_roundtrip _ _ hb wf.saneI]
  rw [wf.dpfsSize, e3, dpfs_roundtrip _ _ hc wf.saneD]
  rw [wf.hashSize, e4, lm]
  have hn : (0x20 * x.master.length + 0x1F) / 0x20 = x.master.length := by omega
  rw [hn, ← hm]
  have := splitHashes_flatten x.master [] [] wf.hashLen
  simp only [List.nil_append, List.append_nil, List.length_nil] at this
  rw [this]

end Save
end Pyctr
