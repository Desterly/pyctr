/-
  `SubsectionIO`: a window `[offset, offset + size)` on an inner file is a file of fixed size holding that slice (`absSub`).  `read`
  and `write` clip their argument to the window, position the inner file and hand the call on; beside the refinement they keep
  a frame (`Frame`): nothing outside the window changes.  `seek` is `seekPos` on the window's own size and position.
-/
import PyctrModel.IO.Subsection
import Proofs.Sim
namespace Pyctr
namespace Sub
variable {σ : Type} {F : FileOps σ} {inv : σ → Prop} {abs : σ → AFile}

/-- window view of the inner file's abstract content; `true, true`: it cannot grow (a write is cut at the window's end) and an
    absolute seek is clamped to its size -/
def absSub (abs : σ → AFile) (s : Sub σ) : AFile :=
  ⟨slice (abs s.inner).content s.offset s.size, s.seek, true, true⟩

/-- the window lies inside the inner file: then clipping to the window is all the clipping a call needs -/
def invSub (inv : σ → Prop) (abs : σ → AFile) (s : Sub σ) : Prop :=
  inv s.inner ∧ s.offset + s.size ≤ (abs s.inner).content.length

def Frame (abs : σ → AFile) (s s' : Sub σ) : Prop :=
  s'.offset = s.offset ∧ s'.size = s.size ∧
  (abs s'.inner).content.length = (abs s.inner).content.length ∧
  ∀ i, (i < s.offset ∨ s.offset + s.size ≤ i) → (abs s'.inner).content[i]? = (abs s.inner).content[i]?

theorem Frame.refl (s : Sub σ) : Frame abs s s := ⟨rfl, rfl, rfl, fun _ _ => rfl⟩

theorem Frame.trans {s1 s2 s3 : Sub σ} (h1 : Frame abs s1 s2) (h2 : Frame abs s2 s3) : Frame abs s1 s3 := by
  obtain ⟨a1, b1, c1, d1⟩ := h1
  obtain ⟨a2, b2, c2, d2⟩ := h2
  refine ⟨by rw [a2, a1], by rw [b2, b1], by rw [c2, c1], fun i hi => ?_⟩
  rw [d2 i (by rw [a1, b1]; exact hi), d1 i hi]

theorem absSub_len (s : Sub σ) (h : invSub inv abs s) : (absSub abs s).content.length = s.size :=
  slice_length_of_le _ h.2

/-- the size `read` hands to the inner file, after its two clippings -/
theorem readSize_eq (s : Sub σ) (n : Int) (h : invSub inv abs s) (hs : s.seek ≤ s.size) :
    (if (s.seek : Int) + (if n < 0 then (s.size : Int) - s.seek else n) > s.size then (s.size : Int) - s.seek
      else (if n < 0 then (s.size : Int) - s.seek else n)) = ((absSub abs s).readLen n : Nat) := by
  rw [AFile.readLen_eq, absSub_len s h]
  show _ = ((if n < 0 then s.size - s.seek else min n.toNat (s.size - s.seek) : Nat) : Int)
  by_cases hn : n < 0
  · rw [if_pos hn, if_pos hn, if_neg (by rw [Int.add_comm, Int.sub_add_cancel]; exact Int.lt_irrefl _), Int.ofNat_sub hs]
  · rw [if_neg hn, if_neg hn]
    by_cases hc : (s.seek : Int) + n > s.size
    · rw [if_pos hc, Nat.min_eq_right (by omega), Int.ofNat_sub hs]
    · rw [if_neg hc, Nat.min_eq_left (by omega), Int.toNat_of_nonneg (Int.not_lt.mp hn)]

/-- the data `write` hands to the inner file, cut to what fits -/
theorem writeData_eq (s : Sub σ) (w : Bytes) (h : invSub inv abs s) :
    (if w.length + s.seek > s.size then pySlice w 0 (-(((w.length + s.seek : Nat) : Int) - s.size)) else w) =
      (absSub abs s).writeTake w := by
  rw [AFile.writeTake, AFile.size, absSub_len s h]
  show _ = w.take (s.size - s.seek)
  split
  · rename_i hgt
    rw [← Int.ofNat_sub (Nat.le_of_lt hgt), pySlice_dropLast _ _ (Nat.sub_pos_of_lt hgt)]
    congr 1; omega
  · rename_i hle
    rw [List.take_of_length_le (Nat.le_sub_of_add_le (Nat.le_of_not_lt hle))]

theorem fits_window {seek size off len k : Nat} (hs : seek ≤ size) (hk : k ≤ size - seek) (hin : off + size ≤ len) :
    seek + k ≤ size ∧ seek + off + k ≤ len := by omega

theorem inner_seek (hF : IsReadable F inv abs) (s : Sub σ) (h : invSub inv abs s) (hs : s.seek ≤ s.size) :
    ∃ i1, F.seek s.inner ((s.seek : Int) + s.offset) 0 = .ok (s.seek + s.offset, i1) ∧
      abs i1 = { abs s.inner with pos := s.seek + s.offset } ∧ inv i1 := by
  rw [← Int.natCast_add]
  exact hF.seek_set s.inner _ h.1 (by have := h.2; omega)

theorem read_refines (hF : IsReadable F inv abs) (s : Sub σ) (n : Int) (h : invSub inv abs s) :
    ∃ s', Sub.read F s n = .ok (((absSub abs s).read n).1, s') ∧
      absSub abs s' = ((absSub abs s).read n).2 ∧ invSub inv abs s' ∧ Frame abs s s' := by
  have hkle : (absSub abs s).readLen n ≤ s.size - s.seek := absSub_len s h ▸ AFile.readLen_le _ n
  rw [AFile.read_eq]
  unfold Sub.read
  by_cases hpast : s.offset + s.seek > s.offset + s.size
  · rw [if_pos hpast, AFile.readLen_past _ n (by
      rw [absSub_len s h]; exact Nat.le_of_lt (Nat.lt_of_add_lt_add_left hpast)), slice_zero_len]
    exact ⟨s, rfl, rfl, h, Frame.refl s⟩
  · have hin := h.2
    have hs : s.seek ≤ s.size := by omega
    rw [if_neg hpast, readSize_eq s n h hs]
    generalize (absSub abs s).readLen n = k at hkle
    obtain ⟨h1, hfit⟩ := fits_window hs hkle hin
    obtain ⟨i1, e1, a1, v1⟩ := inner_seek hF s h hs
    obtain ⟨i2, e2, a2, v2⟩ := hF.read_nat i1 k v1 (by rw [a1]; exact hfit)
    rw [a1] at e2 a2
    have hl : (slice (abs s.inner).content (s.seek + s.offset) k).length = k := slice_length_of_le _ hfit
    refine ⟨{ s with inner := i2, seek := s.seek + k }, ?_, ?_, ⟨v2, by rw [a2]; exact hin⟩,
      rfl, rfl, by rw [a2], fun i _ => by rw [a2]⟩
    · simp only [e1, e2, bind, Except.bind, hl, absSub]
      rw [slice_slice _ _ _ _ _ h1, Nat.add_comm s.offset]
    · simp only [absSub, a2]

theorem write_refines (hF : IsFileW F inv abs) (s : Sub σ) (w : Bytes) (h : invSub inv abs s) :
    ∃ s', Sub.write F s w = .ok (((absSub abs s).write w).1, s') ∧
      absSub abs s' = ((absSub abs s).write w).2 ∧ invSub inv abs s' ∧ Frame abs s s' := by
  have hsz := absSub_len s h
  unfold Sub.write
  dsimp only
  by_cases hpast : s.seek > s.size
  · rw [if_pos hpast, AFile.write_past _ w rfl (by rw [hsz]; exact Nat.le_of_lt hpast)]
    exact ⟨s, rfl, rfl, h, Frame.refl s⟩
  · have hin := h.2
    have hs : s.seek ≤ s.size := Nat.le_of_not_lt hpast
    rw [if_neg hpast, writeData_eq s w h, AFile.write_of_le _ w (hsz.symm ▸ hs)]
    have hdl : ((absSub abs s).writeTake w).length ≤ s.size - s.seek := hsz ▸ AFile.writeTake_length_fixed _ w rfl
    generalize (absSub abs s).writeTake w = data at hdl ⊢
    obtain ⟨h1, hfit⟩ := fits_window hs hdl hin
    have hpos : s.seek + s.offset ≤ (abs s.inner).content.length := Nat.le_trans (Nat.le_add_right ..) hfit
    obtain ⟨i1, e1, a1, v1⟩ := inner_seek hF.toIsReadable s h hs
    obtain ⟨i2, e2, a2, v2⟩ := hF.write i1 data v1 (Or.inr (by rw [a1]; exact hpos))
    rw [a1, AFile.write_of_le _ _ hpos, AFile.writeTake_of_fit _ _ hfit] at e2 a2
    have hlen : (overlay (abs s.inner).content (s.seek + s.offset) data).length = (abs s.inner).content.length :=
      overlay_length_inside _ _ _ hfit
    refine ⟨{ s with inner := i2, seek := s.seek + data.length }, ?_, ?_, ⟨v2, ?_⟩, rfl, rfl, ?_, fun i hi => ?_⟩
    · simp only [e1, e2, bind, Except.bind]
    · simp only [absSub, a2]
      rw [Nat.add_comm s.seek,
        slice_overlay_window _ _ _ _ _ (Nat.le_min.mpr ⟨h1, Nat.le_trans h1 (Nat.le_sub_of_add_le' hin)⟩)]
    · rw [a2]; exact hlen.symm ▸ hin
    · rw [a2]; exact hlen
    · rw [a2]
      show (overlay (abs s.inner).content (s.seek + s.offset) data)[i]? = _
      -- before the window is before the write and inside the file; after the window is after the write
      exact overlay_getElem?_outside _ _ _ _ (hi.imp
        (fun h => ⟨Nat.lt_of_lt_of_le h (Nat.le_add_left ..), Nat.lt_of_lt_of_le h (Nat.le_trans (Nat.le_add_right ..) hin)⟩)
        fun h => Nat.le_trans (by rw [Nat.add_comm s.seek, Nat.add_assoc]; exact Nat.add_le_add_left h1 _) h)

theorem seekOp_eq (s : Sub σ) (off wh : Int) :
    Sub.seekOp s off wh = (AFile.seekPos s.size s.seek true off wh).map fun p => (p, { s with seek := p }) :=
  (AFile.seekPos_map (fun p => (p, ({ s with seek := p } : Sub σ))) s.size s.seek true off wh).symm

theorem sim_seek (s : Sub σ) (off wh : Int) (h : invSub inv abs s) :
    SimG (OpRel (invSub inv abs) (absSub abs)) (Sub.seekOp s off wh) (AFile.ops.seek (absSub abs s) off wh) := by
  have := sim_seekPos (inv := invSub inv abs) (abs := absSub abs) s (fun p => { s with seek := p }) off wh
    fun p => ⟨rfl, h⟩
  rw [absSub_len s h] at this
  rw [seekOp_eq]; exact this

theorem sub_isReadable (hF : IsReadable F inv abs) : IsReadable (Sub.ops F) (invSub inv abs) (absSub abs) :=
  .of_sim (fun s n h => simG_opRel_ok.mpr (by obtain ⟨s', a, b, c, _⟩ := read_refines hF s n h; exact ⟨s', a, b, c⟩))
    sim_seek
    (fun s h => ⟨(s.seek, s), rfl, rfl, rfl, h⟩)

theorem sub_isFile (hF : IsFileW F inv abs) : IsFile (Sub.ops F) (invSub inv abs) (absSub abs) where
  toIsReadable := sub_isReadable hF.toIsReadable
  write s w h := by
    obtain ⟨s', a, b, c, _⟩ := write_refines hF s w h; exact ⟨s', a, b, c⟩

/-- what a caller can see of a window call: the value returned, the window's own position, the bytes of the base -/
def seen {α : Type} (r : Except Err (α × Sub PyFile)) : Except Err (α × Nat × Bytes) :=
  r.map fun x => (x.1, x.2.seek, x.2.inner.buf)

end Sub
end Pyctr
