/-
  C13: the NCSD header round trip (invariant `ArrInv` of the table loop); the counter inference routines, block by block.
-/
import Proofs.BytesLemmas
import PyctrModel.Fmt.Nand
namespace Pyctr

/-! `l.take i ++ zeros (n - i)` is what a table of length `n` holds while it is being filled with the entries of `l`, front to back.
The next `w` entries are zero anyway, are spliced in, or one is set. -/

theorem take_zeros_skip (l : Bytes) (i w n : Nat) (h : i + w ≤ n) (hz : slice l i w = zeros w) :
    l.take i ++ zeros (n - i) = l.take (i + w) ++ zeros (n - (i + w)) := by
  rw [← take_append_slice, hz, List.append_assoc]
  simp only [zeros, List.replicate_append_replicate]
  rw [show w + (n - (i + w)) = n - i by omega]

theorem take_zeros_splice (l : Bytes) (i w n : Nat) (hi : i ≤ l.length) :
    (l.take i ++ zeros (n - i)).take i ++ slice l i w ++ (l.take i ++ zeros (n - i)).drop (i + w) =
      l.take (i + w) ++ zeros (n - (i + w)) := by
  have hlen : (l.take i).length = i := by rw [List.length_take]; omega
  rw [List.take_left' hlen, take_append_slice, List.drop_append, List.drop_of_length_le (by omega), hlen,
    Nat.add_sub_cancel_left, List.nil_append]
  simp only [zeros, List.drop_replicate, Nat.sub_sub]

theorem take_zeros_set (l : Bytes) (i n : Nat) (hi : i < n) (v : UInt8) (hv : l[i]? = some v) :
    (l.take i ++ zeros (n - i)).set i v = l.take (i + 1) ++ zeros (n - (i + 1)) := by
  have hl : i < l.length := (List.getElem?_eq_some_iff.mp hv).1
  have hlen : (l.take i ++ zeros (n - i)).length = n := by simp only [List.length_append, List.length_take, zeros_length]; omega
  rw [List.set_eq_take_append_cons_drop, if_pos (by omega), ← List.singleton_append (l := List.drop _ _), ← slice_one hv,
    ← List.append_assoc]
  exact take_zeros_splice l i 1 n (by omega)

theorem take_zeros_full (l : Bytes) (i n : Nat) (hl : l.length ≤ i) (hn : n ≤ i) : l.take i ++ zeros (n - i) = l := by
  rw [List.take_of_length_le hl, Nat.sub_eq_zero_of_le hn]; exact List.append_nil l

namespace Nand

/-- what the arrays hold after the first `idx` table slots have been processed -/
structure ArrInv (fsB crB locB : Bytes) (a : Arrays) (idx : Nat) : Prop where
  fs : a.fs = fsB.take idx ++ zeros (8 - idx)
  cr : a.cr = crB.take idx ++ zeros (8 - idx)
  locs : a.locs = locB.take (8 * idx) ++ zeros (64 - 8 * idx)

theorem step_neg (a : Arrays) (k : Int) (p : PartInfo) (h : k < 0) : a.step (k, p) = a := by
  unfold Arrays.step; rw [if_pos h]

theorem arrInv_skip {fsB crB locB : Bytes} {a : Arrays} {idx : Nat} (h : ArrInv fsB crB locB a idx) (hidx : idx < 8)
    (hfs : fsB[idx]? = some 0) (hcr : crB[idx]? = some 0) (hloc : slice locB (8 * idx) 8 = zeros 8) :
    ArrInv fsB crB locB a (idx + 1) := by
  refine ⟨?_, ?_, ?_⟩
  · rw [h.fs, take_zeros_skip fsB idx 1 8 hidx (slice_one hfs)]
  · rw [h.cr, take_zeros_skip crB idx 1 8 hidx (slice_one hcr)]
  · rw [h.locs, Nat.mul_succ, take_zeros_skip locB (8 * idx) 8 64 (by omega) hloc]

theorem arrInv_step {fsB crB locB : Bytes} {a : Arrays} {idx : Nat} (h : ArrInv fsB crB locB a idx) (hidx : idx < 8)
    (hlfs : fsB.length = 8) (hlcr : crB.length = 8) (hlloc : locB.length = 64) (base : Option Base) :
    ArrInv fsB crB locB
      (a.step ((idx : Int), ⟨((fsB.getD idx 0).toNat : Int), ((crB.getD idx 0).toNat : Int),
        readLE (slice locB (8 * idx) 4) * 0x200, readLE (slice locB (8 * idx + 4) 4) * 0x200, base⟩)) (idx + 1) := by
  unfold Arrays.step
  simp only [Int.toNat_natCast, UInt8.ofNat_toNat, Nat.mul_div_cancel _ (by decide : 0 < 0x200)]
  refine ⟨?_, ?_, ?_⟩
  · simp only [h.fs]; exact take_zeros_set fsB idx 8 hidx _ (getElem?_eq_some_getD fsB idx (hlfs ▸ hidx))
  · simp only [h.cr]; exact take_zeros_set crB idx 8 hidx _ (getElem?_eq_some_getD crB idx (hlcr ▸ hidx))
  · simp only [h.locs]
    rw [toLE_readLE_slice _ _ _ (by omega), toLE_readLE_slice _ _ _ (by omega), List.append_assoc (List.take _ _),
      slice_append_slice, Nat.mul_succ]
    exact take_zeros_splice locB (8 * idx) 8 64 (by omega)

/-- the named-section ids are negative: the test, pushed to the leaves of `typeOf`, evaluates to `true` at each, and the `if`s
    collapse (splitting the nine cases first is much dearer) -/
theorem typeOf_extra_neg (fs cr fc : Nat) (x : Int) (h : (typeOf fs cr fc).2 = some x) : x < 0 := by
  have hall : (typeOf fs cr fc).2.all (· < 0) = true := by
    unfold typeOf
    simp only [apply_ite Prod.snd, apply_ite (Option.all _), Option.all_some, Option.all_none, secTWLNAND, secCTRNAND, secFIRM0,
      secFIRM1, secAGBSAVE, Int.reduceNeg, Int.reduceLT, decide_true, ite_self]
  rw [h] at hall
  exact of_decide_eq_true hall

/-- unused table slots of a well-formed header are all-zero -/
def UnusedZero (fsB crB locB : Bytes) : Prop :=
  ∀ i, i < 8 → fsB[i]? = some 0 → crB[i]? = some 0 ∧ slice locB (8 * i) 8 = zeros 8

theorem parse_arrays (fsB crB locB : Bytes) (hlfs : fsB.length = 8) (hlcr : crB.length = 8) (hlloc : locB.length = 64)
    (hwf : UnusedZero fsB crB locB) (n idx fc : Nat) (acc t : List (Int × PartInfo)) (hi : idx + n = 8)
    (hp : parseEntries fsB crB locB n idx fc acc = .ok t) (hinv : ArrInv fsB crB locB (acc.foldl Arrays.step Arrays.init) idx) :
    t.foldl Arrays.step Arrays.init = ⟨fsB, crB, locB⟩ := by
  fun_induction parseEntries fsB crB locB n idx fc acc
  case case1 =>  -- all eight slots done: nothing of the zero padding is left
    obtain rfl := Except.ok.inj hp
    obtain rfl : _ = 8 := hi
    generalize List.foldl Arrays.step Arrays.init _ = a at hinv
    obtain ⟨fs, cr, locs⟩ := a
    obtain ⟨rfl, rfl, rfl⟩ := hinv
    rw [take_zeros_full _ _ _ (Nat.le_of_eq hlfs) (Nat.le_refl _), take_zeros_full _ _ _ (Nat.le_of_eq hlcr) (Nat.le_refl _),
      take_zeros_full _ _ _ (Nat.le_of_eq hlloc) (Nat.le_refl _)]
  case case2 _ idx _ _ _ hz ih =>  -- an unused slot
    have hfs0 : fsB[idx]? = some 0 := by rw [getElem?_eq_some_getD fsB idx (by omega), (UInt8.toNat_inj (b := 0)).mp hz]
    obtain ⟨hc, hl⟩ := hwf idx (by omega) hfs0
    exact ih (by omega) hp (arrInv_skip hinv (by omega) hfs0 hc hl)
  case case3 ih =>  -- a partition without a named section
    refine ih (by omega) hp ?_
    rw [List.foldl_append]
    exact arrInv_step hinv (by omega) hlfs hlcr hlloc _
  case case4 => cases hp  -- a named section twice: rejected
  -- a partition with a named section: the second entry has a negative key, which `__bytes__` skips
  case case5 x _ hx ih =>
    refine ih (by omega) hp ?_
    rw [List.foldl_append, List.foldl_append, List.foldl_cons, List.foldl_nil,
      step_neg _ x _ (typeOf_extra_neg _ _ _ x (congrArg Prod.snd hx))]
    exact arrInv_step hinv (by omega) hlfs hlcr hlloc _

/-- `toBytes` glues nine fields: signature, unknown area and TWL MBR are kept as read; magic, image size and the zero media id
    are re-encoded from what `fromBytes` checked or decoded; the three arrays are rebuilt by the table loop (`parse_arrays`).
    Each is the slice of `b` at its offset, and the nine slices tile `b` -/
theorem header_roundtrip (b : Bytes) (hd : Header) (h : Header.fromBytes b = .ok hd)
    (hwf : UnusedZero (slice b 0x110 8) (slice b 0x118 8) (slice b 0x120 0x40)) : hd.toBytes = b := by
  revert h
  fun_cases Header.fromBytes b
  case case6 hl mu actual _ hm hid t hp t' =>  -- the header parses; the other five cases reject it
    intro h
    obtain rfl := Except.ok.inj h
    have hlen : b.length = 0x200 := Decidable.not_not.mp hl
    have hsl : ∀ a n, a + n ≤ 0x200 → (slice b a n).length = n := fun a n h => slice_length_of_le b (hlen ▸ h)
    unfold Header.toBytes
    simp only [t']
    rw [List.foldl_append, List.foldl_cons, List.foldl_cons, List.foldl_cons, List.foldl_nil, step_neg _ _ _ (by decide),
      step_neg _ _ _ (by decide), step_neg _ _ _ (by decide),
      parse_arrays _ _ _ (hsl _ _ (by decide)) (hsl _ _ (by decide)) (hsl _ _ (by decide)) hwf 8 0 0 [] t rfl hp ⟨rfl, rfl, rfl⟩]
    have emagic : ncsdMagic = slice b 0x100 4 := (Decidable.not_not.mp hm).symm
    have emu : toLE 4 (mu * 0x200 / 0x200) = slice b 0x104 4 := by
      rw [Nat.mul_div_cancel _ (by decide : 0 < 0x200), toLE_readLE_slice _ _ _ (by omega)]
    have eid : zeros 8 = slice b 0x108 8 := by
      have := zeros_of_readLE_zero _ (Decidable.not_not.mp hid)
      rwa [hsl _ _ (by decide), eq_comm] at this
    rw [emagic, emu, eid]
    rw [slice_append_slice, slice_append_slice, slice_append_slice, slice_append_slice, slice_append_slice, slice_append_slice,
      slice_append_slice, slice_append_slice]
    exact slice_all b _ (by omega)
  all_goals exact fun h => nomatch h

theorem counter_found (c blockOff : Nat) : ((c + blockOff : Nat) : Int) - (blockOff : Int) = c := by omega

theorem counter_next (c blockOff : Nat) (hc : c + blockOff + 1 < 2 ^ 128) :
    (((c : Int) + (blockOff : Int) + 1) % (2 ^ 128 : Int)).toNat = c + blockOff + 1 := by
  have : (c : Int) + (blockOff : Int) + 1 = ((c + blockOff + 1 : Nat) : Int) := by omega
  rw [this, Int.emod_eq_of_lt (by omega) (by exact_mod_cast hc)]
  exact Int.toNat_natCast _

/-- an all-zero plaintext block (the CTR MBR has them) is stored as the keystream block itself -/
theorem ctrBlock_keystream (E : Bytes → Bytes → Bytes) (key : Bytes) (ctr : Nat) (hctr : ctr < 2 ^ 128)
    (hE : (E key (toBE 16 ctr)).length = 16) : ctrBlock E key ctr (E key (toBE 16 ctr)) = zeros 16 := by
  unfold ctrBlock
  rw [Nat.mod_eq_of_lt hctr, xorBytes_self, hE]

/-- the DSi wrapper reverses the block on the way in and out, so the stored block is the plaintext XOR the reversed keystream -/
theorem twlBlock_known (E : Bytes → Bytes → Bytes) (key : Bytes) (ctr : Nat) (hctr : ctr < 2 ^ 128) (known : Bytes)
    (hE : (E key (toBE 16 ctr)).length = known.length) :
    twlBlock E key ctr (xorBytes known (E key (toBE 16 ctr)).reverse) = known := by
  have hl : known.reverse.length = (E key (toBE 16 ctr)).length := by rw [List.length_reverse, hE]
  unfold twlBlock ctrBlock
  rw [Nat.mod_eq_of_lt hctr, reverse_xorBytes known _ (by rw [List.length_reverse, hE]), List.reverse_reverse,
    xorBytes_cancel _ _ hl, List.reverse_reverse]

/-- `_generate_twl_counter` recovers the keystream block `K` from the stored first block and its known plaintext, as integers -/
theorem twl_keystream_block (known : Nat) (hk : known < 256 ^ 16) (K : Bytes) (hK : K.length = 16) :
    toLE 16 (readBE (xorBytes (toBE 16 known) K.reverse) ^^^ known) = K := by
  rw [readBE_xorBytes _ _ (by rw [toBE_length, List.length_reverse, hK]), readBE_toBE _ _ hk, Nat.xor_comm known, Nat.xor_assoc,
    Nat.xor_self, Nat.xor_zero, readBE_eq_readLE_reverse, List.reverse_reverse, ← hK, toLE_readLE]

/-- with a CID — given as an argument or stored in essential.exefs — the counters are the CID-derived ones -/
theorem counters_from_cid (E D : Bytes → Bytes → Bytes) (H256 H1 : Bytes → Bytes) (eng : Engine) (img : Bytes)
    (header : Header) (ti ci : Option Int) (c : Bytes) :
    stageCounters E D H256 H1 eng img header ti ci (some c) =
      .ok (some (readBE (slice (H256 c) 0 0x10) : Int), some (readLE (slice (H1 c) 0 0x10) : Int)) := rfl

theorem cid_argument_first (img : Bytes) (ess : Option (List Exefs.Entry)) (c : Bytes) (h : c ≠ []) :
    stageCid img ess (some c) = some c := by
  unfold stageCid
  have : c.isEmpty = false := by cases c with | nil => exact absurd rfl h | cons _ _ => rfl
  simp [this]

end Nand
end Pyctr
