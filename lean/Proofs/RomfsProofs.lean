/-
  C06: the directory walk on metadata tables that represent a tree (`repDir`), by mutual recursion on the tree; pairwise distinct
  sibling keys are what makes the insertion-ordered dict grow at the end (`dictSet_next`).  `parse` is the header stage
  (`Located`, `headerOK`) followed by the walk from the root entry.
-/
import PyctrModel.Fmt.Romfs
import Proofs.BytesLemmas
namespace Pyctr
namespace Romfs

theorem dictSet_fresh (l : List (Str × PNode)) (k : Str) (v : PNode) (h : ∀ x ∈ l, x.1 ≠ k) : dictSet l k v = l ++ [(k, v)] :=
  if_neg fun hany => let ⟨x, hx, hk⟩ := List.any_eq_true.mp hany; h x hx (eq_of_beq hk)

mutual
/-- Fuel that is enough to walk a tree.  Fuel bounds the depth of calls: a sibling loop calls itself once per sibling, `dirLoop`
    also `iterDir` for the subdirectory.  Hence `1 +` what the callees need — added up where the maximum would do, which keeps
    `needIter_eq` linear in the numbers of directories and files. -/
def needIter : Tree → Nat
  | .dir _ dirs files => 1 + needDirs dirs + files.length
def needDirs : List Tree → Nat
  | [] => 0
  | d :: ds => 1 + needIter d + needDirs ds
end

/-- keys of the entries a directory holds, in the order the reader inserts them -/
def keysOf (e : Env) : Tree → List Str
  | .dir _ dirs files => dirs.map (fun d => e.key d.name) ++ files.map (fun f => e.key f.1)

mutual
/-- sibling keys are pairwise distinct, everywhere in the tree -/
def Distinct (e : Env) : Tree → Prop
  | .dir n dirs files => (keysOf e (.dir n dirs files)).Pairwise (· ≠ ·) ∧ DistinctL e dirs
def DistinctL (e : Env) : List Tree → Prop
  | [] => True
  | d :: ds => Distinct e d ∧ DistinctL e ds
end

/-- the name test of `repFiles` / `repDirs`, taken apart -/
theorem decode_of_match (b : Bytes) (n : Str)
    (h : (match decodeUtf16 b with | .ok m => m == n && !badName m | .error _ => false) = true) :
    decodeUtf16 b = .ok n ∧ badName n = false := by
  cases hd : decodeUtf16 b with
  | error _ => rw [hd] at h; simp at h
  | ok m =>
    rw [hd] at h
    simp only [Bool.and_eq_true, beq_iff_eq, Bool.not_eq_true'] at h
    obtain ⟨h1, h2⟩ := h
    subst h1
    exact ⟨rfl, h2⟩

/-- the step of both sibling loops: `out` holds the entries inserted so far, `k :: ks` are the keys still to come -/
theorem dictSet_next (out : List (Str × PNode)) (k : Str) (v : PNode) (ks : List Str)
    (h : (out.map (·.1) ++ k :: ks).Pairwise (· ≠ ·)) :
    dictSet out k v = out ++ [(k, v)] ∧ ((out ++ [(k, v)]).map (·.1) ++ ks).Pairwise (· ≠ ·) := by
  refine ⟨dictSet_fresh out k v fun x hx =>
    (List.pairwise_append.mp h).2.2 x.1 (List.mem_map_of_mem hx) k List.mem_cons_self, ?_⟩
  simpa using h

/-- The sibling loops test `next = NONE` before they go round again, `repFiles` / `repDirs` test it on entry: the statements are
    about the guarded call, so that the empty chain needs no case of its own. -/
theorem fileLoop_rep (e : Env) : ∀ (fs : List (Str × Nat × Nat)) (off fuel : Nat) (out : List (Str × PNode)) (c : Counters),
    repFiles e off fs = true → fs.length ≤ fuel → c.files + fs.length ≤ e.maxFiles →
    (out.map (·.1) ++ fs.map (fun g => e.key g.1)).Pairwise (· ≠ ·) →
    (if off = NONE then .ok (out, c) else fileLoop e fuel off out c) =
      .ok (out ++ fs.map fun g => (e.key g.1, .file g.1 g.2.1 g.2.2), ⟨c.dirs, c.files + fs.length⟩)
  | [], off, _, out, _, hrep, _, _, _ => by
    rw [if_pos (by simpa [repFiles] using hrep), List.map_nil, List.append_nil]; rfl
  | f :: fs, off, 0, _, _, _, hfuel, _, _ => by simp at hfuel
  | f :: fs, off, n + 1, out, c, hrep, hfuel, hcnt, hpw => by
    simp only [List.length_cons] at hfuel hcnt
    simp only [repFiles, Bool.and_eq_true, beq_iff_eq, bne_iff_ne] at hrep
    obtain ⟨⟨⟨⟨⟨hoff, hlen⟩, hname⟩, hfo⟩, hfs⟩, hrest⟩ := hrep
    obtain ⟨hname', hgood⟩ := decode_of_match _ _ hname
    obtain ⟨hset, hpw'⟩ := dictSet_next out (e.key f.1) (.file f.1 f.2.1 f.2.2) _ hpw
    have hc : ¬ (c.files + 1 > e.maxFiles) := by omega
    rw [if_neg hoff]
    unfold fileLoop
    simp only [hc, if_false, hlen, hname', hfo, hfs, hgood, Bool.false_eq_true, hset]
    rw [fileLoop_rep e fs _ n _ _ hrest (by omega) (by simp only; omega) hpw']
    simp only [List.map_cons, List.append_assoc, List.singleton_append, List.length_cons]
    rw [show c.files + 1 + fs.length = c.files + (fs.length + 1) by omega]

theorem shapeDirs_keys (e : Env) (ds : List Tree) : (shapeDirs e ds).map (·.1) = ds.map (fun d => e.key d.name) := by
  induction ds with
  | nil => simp [shapeDirs]
  | cons d ds ih => simp [shapeDirs, ih]

mutual
theorem iterDir_rep (e : Env) : ∀ (t : Tree) (fuel : Nat) (raw : Bytes) (c : Counters), repDir e raw t = true →
    needIter t ≤ fuel → c.dirs + t.numDirs ≤ e.maxDirs → c.files + t.numFiles ≤ e.maxFiles → Distinct e t →
    iterDir e fuel raw c = .ok (shapeContents e t, ⟨c.dirs + t.numDirs, c.files + t.numFiles⟩)
  | .dir name dirs files, 0, _, _, _, hfuel, _, _, _ => by simp [needIter] at hfuel
  | .dir name dirs files, n + 1, raw, c, hrep, hfuel, hd, hf, hdist => by
    simp only [repDir, Bool.and_eq_true] at hrep
    obtain ⟨hrd, hrf⟩ := hrep
    simp only [needIter] at hfuel
    simp only [Tree.numDirs, Tree.numFiles] at hd hf ⊢
    obtain ⟨hpw, hdl⟩ := hdist
    unfold iterDir
    simp only [ite_not]
    rw [shapeContents, dirLoop_rep e dirs n _ [] c hrd (by omega) (by omega) (by omega) hdl (List.pairwise_append.mp hpw).1]
    simp only [List.nil_append]
    rw [fileLoop_rep e files _ n _ _ hrf (by omega) (by simp only; omega) (by rwa [shapeDirs_keys])]
    simp only [Nat.add_assoc, Nat.add_comm files.length]
theorem dirLoop_rep (e : Env) : ∀ (ds : List Tree) (fuel off : Nat) (out : List (Str × PNode)) (c : Counters),
    repDirs e off ds = true → needDirs ds ≤ fuel → c.dirs + numDirsL ds ≤ e.maxDirs →
    c.files + numFilesL ds ≤ e.maxFiles → DistinctL e ds →
    (out.map (·.1) ++ ds.map (fun d => e.key d.name)).Pairwise (· ≠ ·) →
    (if off = NONE then .ok (out, c) else dirLoop e fuel off out c) =
      .ok (out ++ shapeDirs e ds, ⟨c.dirs + numDirsL ds, c.files + numFilesL ds⟩)
  | [], _, off, out, _, hrep, _, _, _, _, _ => by
    rw [if_pos (by simpa [repDirs] using hrep), shapeDirs, List.append_nil]; rfl
  | d :: ds, 0, _, _, _, _, hfuel, _, _, _, _ => by simp [needDirs] at hfuel
  | d :: ds, n + 1, off, out, c, hrep, hfuel, hd, hf, hdl, hpw => by
    simp only [repDirs, Bool.and_eq_true, beq_iff_eq, bne_iff_ne] at hrep
    obtain ⟨⟨⟨⟨hoff, hlen⟩, hname⟩, hrd⟩, hrest⟩ := hrep
    obtain ⟨hname', hgood⟩ := decode_of_match _ _ hname
    simp only [needDirs] at hfuel
    simp only [numDirsL, numFilesL] at hd hf ⊢
    obtain ⟨hset, hpw'⟩ := dictSet_next out (e.key d.name) (.dir d.name (shapeContents e d)) _ hpw
    have hc : ¬ (c.dirs + 1 > e.maxDirs) := by omega
    rw [if_neg hoff]
    unfold dirLoop
    simp only [hc, if_false, hlen, hname', hgood, Bool.false_eq_true]
    rw [iterDir_rep e d n _ _ hrd (by omega) (by simp only; omega) (by simp only; omega) hdl.1]
    simp only [hset]
    rw [dirLoop_rep e ds n _ _ _ hrest (by omega) (by simp only; omega) (by simp only; omega) hdl.2 hpw']
    simp only [shapeDirs, List.append_assoc, List.singleton_append, Nat.add_assoc]
end

theorem walk_represented (e : Env) (t : Tree) (fuel : Nat) (hrep : repDir e (slice e.dm 0 0x18) t = true)
    (hfuel : needIter t ≤ fuel) (hd : t.numDirs ≤ e.maxDirs) (hf : t.numFiles ≤ e.maxFiles) (hdist : Distinct e t) :
    iterDir e fuel (slice e.dm 0 0x18) ⟨0, 0⟩ = .ok (shapeContents e t, ⟨t.numDirs, t.numFiles⟩) := by
  simpa using iterDir_rep e t fuel _ ⟨0, 0⟩ hrep hfuel (by simpa using hd) (by simpa using hf) hdist

mutual
theorem needIter_eq : ∀ t : Tree, needIter t = 1 + 2 * t.numDirs + t.numFiles
  | .dir _ dirs files => by simp only [needIter, Tree.numDirs, Tree.numFiles, needDirs_eq dirs]; omega
theorem needDirs_eq : ∀ ds : List Tree, needDirs ds = 2 * numDirsL ds + numFilesL ds
  | [] => rfl
  | d :: ds => by simp only [needDirs, numDirsL, numFilesL, needIter_eq d, needDirs_eq ds]; omega
end

theorem needIter_le (t : Tree) (maxD maxF : Nat) (hd : t.numDirs ≤ maxD) (hf : t.numFiles ≤ maxF) :
    needIter t ≤ 2 * maxD + maxF + 3 := by
  rw [needIter_eq t]; omega

theorem walkParts_found (n : Str) (cs : List (Str × PNode)) (part : Str) (rest : List Str) (hne : part ≠ [])
    (k : Str) (v : PNode) (h : cs.find? (·.1 == part) = some (k, v)) :
    walkParts (.dir n cs) (part :: rest) = walkParts v rest := by
  have h1 : (part == []) = false := by simpa using hne
  simp [walkParts, h1, h]

/-- the environment `parse` builds from a level-3 header `h` located at `start + lv3off` -/
def envOf (lower : Str → Str) (ci : Bool) (file : Bytes) (start lv3off : Nat) (h : Bytes) : Env :=
  mkEnv lower ci file (start + lv3off) (u32 h 12) (u32 h 16) (u32 h 28) (u32 h 32)

/-- the level-3 header checks of the constructor -/
def headerOK (h : Bytes) : Prop :=
  h.length = 0x28 ∧ u32 h 0 = 0x28 ∧ ¬ (u32 h 4 < u32 h 0) ∧ ¬ (u32 h 12 < u32 h 4 + u32 h 8) ∧
  ¬ (u32 h 20 < u32 h 12 + u32 h 16) ∧ ¬ (u32 h 28 < u32 h 20 + u32 h 24) ∧ ¬ (u32 h 36 < u32 h 28 + u32 h 32)

/-- the first stage of `parse`: the level-3 header `h` is found at `start + off`, directly or behind an IVFC header -/
def Located (file : Bytes) (start off : Nat) (h : Bytes) : Prop :=
  ((slice (slice file start 0x5C) 0 4 == [0x49, 0x56, 0x46, 0x43]) = false ∧ off = 0 ∧ h = slice (slice file start 0x5C) 0 0x28) ∨
  ((slice (slice file start 0x5C) 0 4 == [0x49, 0x56, 0x46, 0x43]) = true ∧ u32 (slice file start 0x5C) 4 = 0x10000 ∧
    ¬ u32 (slice file start 0x5C) 0x4C > 0x3F ∧
    off = roundupNat (0x60 + u32 (slice file start 0x5C) 8) (2 ^ u32 (slice file start 0x5C) 0x4C) ∧
    h = slice file (start + off) 0x28)

theorem parse_located (lower : Str → Str) (ci : Bool) (file : Bytes) (start off : Nat) (h : Bytes) (t : Tree) (e : Env)
    (he : e = envOf lower ci file start off h) (hloc : Located file start off h) (hok : headerOK h)
    (hrep : repDir e (slice e.dm 0 0x18) t = true) (hd : t.numDirs ≤ e.maxDirs) (hf : t.numFiles ≤ e.maxFiles)
    (hdist : Distinct e t) :
    parse lower ci file start = .ok ⟨.dir [0x52, 0x4F, 0x4F, 0x54] (shapeContents e t), off, off + u32 h 36⟩ := by
  subst he
  have hw := walk_represented _ t _ hrep (needIter_le t _ _ hd hf) hd hf hdist
  obtain ⟨h1, h2, h3, h4, h5, h6, h7⟩ := hok
  rw [h2] at h3
  unfold envOf at hw
  unfold parse
  rcases hloc with ⟨hm, rfl, hh⟩ | ⟨hm, hnum, hbs, hoff, hh⟩
  · simp only [hm, Bool.false_eq_true, if_false, ← hh, h1, ne_eq, not_true_eq_false, h2, h3, h4, h5, h6, h7, or_self, hw, envOf]
  · simp only [hm, if_true, hnum, ne_eq, not_true_eq_false, if_false, hbs, ← hoff, ← hh, h1, h2, h3, h4, h5, h6, h7, or_self,
      hw, envOf]

end Romfs
end Pyctr
