/-
  `TWLCTRFileIO` (DSi flavour): CTR with every 16-byte block of input and of output reversed, so that the keystream byte met at
  place `i` is the 3DS one of the mirrored place `rev16 i`.  The wrapper keeps no cipher object between calls: each call pads to
  whole blocks and starts a fresh one; the file seen is `xorFile` for the keystream `twlKs`.
-/
import Proofs.XorStream
import Proofs.Sim
namespace Pyctr
section
variable (E : Bytes → Bytes)

/-- DSi-mode keystream byte: the AES output block is used byte-reversed -/
def twlKs (ctr i : Nat) : UInt8 := (E (toBE 16 (ctr + i / 16))).getD (15 - i % 16) 0

theorem plainTwl_eq (ctr : Nat) (ct : Bytes) : plainTwl E ctr ct = xorWith (twlKs E ctr) 0 ct := by
  simp [plainTwl, xorWith, twlKs]

theorem twlKs_shift (ctr cur i : Nat) : twlKs E (ctr + cur / 16) (cur % 16 + i) = twlKs E ctr (cur + i) := by
  unfold twlKs
  rw [(block_shift (block_pos ctr cur) i).1, (block_shift (block_pos ctr cur) i).2]

@[simp] theorem chunkRev_length (d : Bytes) : (chunkRev d).length = d.length := by simp [chunkRev]

def rev16 (i : Nat) : Nat := i / 16 * 16 + (15 - i % 16)

theorem rev16_div (i : Nat) : rev16 i / 16 = i / 16 := by
  rw [rev16, Nat.add_comm, Nat.add_mul_div_right _ _ (by decide), Nat.div_eq_of_lt (Nat.lt_succ_of_le (Nat.sub_le ..)),
    Nat.zero_add]

theorem rev16_mod (i : Nat) : rev16 i % 16 = 15 - i % 16 := by
  rw [rev16, Nat.add_comm, Nat.add_mul_mod_self_right, Nat.mod_eq_of_lt (Nat.lt_succ_of_le (Nat.sub_le ..))]

theorem rev16_rev16 (i : Nat) : rev16 (rev16 i) = i := by
  rw [rev16, rev16_div, rev16_mod, Nat.sub_sub_self (Nat.le_of_lt_succ (Nat.mod_lt i (by decide))), Nat.div_add_mod']

theorem rev16_lt {i L : Nat} (hL : L % 16 = 0) (hi : i < L) : rev16 i < L :=
  Nat.lt_of_lt_of_le (Nat.add_lt_add_left (Nat.lt_succ_of_le (Nat.sub_le 15 _)) _) (block_end hL hi)

theorem twlKs_eq (c i : Nat) : twlKs E c i = ksByte E c (rev16 i) := by
  rw [twlKs, ksByte, rev16_div, rev16_mod]

theorem chunkRev_getElem? (d : Bytes) (h16 : d.length % 16 = 0) (i : Nat) (hi : i < d.length) :
    (chunkRev d)[i]? = d[rev16 i]? := by
  simp only [chunkRev, List.getElem?_map, List.getElem?_range hi, Option.map_some]
  rw [Nat.min_eq_left (Nat.le_sub_of_add_le' (block_end h16 hi))]
  show some (d.getD (rev16 i) 0) = _
  rw [List.getD_eq_getElem?_getD, List.getElem?_eq_getElem (rev16_lt h16 hi)]; rfl

theorem twlApply_full (c0 : Nat) (dr : Bool) (P : Bytes) (h : P.length % 16 = 0) :
    twlApply E ⟨c0, 0, none⟩ dr P = .ok (xorWith (twlKs E c0) 0 P, ⟨c0, P.length, some dr⟩) := by
  simp only [twlApply, CtrObj.apply, bind, Except.bind]
  simp only [reduceCtorEq, if_false, chunkRev_length, Nat.zero_add, Except.ok.injEq, Prod.mk.injEq, and_true]
  apply List.ext_getElem?; intro i
  by_cases hi : i < P.length
  · have hml : (List.mapIdx (fun i b => b ^^^ ksByte E c0 i) (chunkRev P)).length = P.length := by simp
    -- reverse, xor with the keystream, reverse: the byte at `i` meets the keystream byte of the mirrored place
    rw [List.getElem?_take_of_lt hi, chunkRev_getElem? _ (by rw [hml]; exact h) i (by rw [hml]; exact hi),
      List.getElem?_mapIdx, chunkRev_getElem? P h _ (rev16_lt h hi), rev16_rev16, xorWith_getElem?,
      List.getElem?_eq_getElem hi]
    simp only [Option.map_some, Nat.zero_add, twlKs_eq]
  · rw [List.getElem?_eq_none (by simp; omega), List.getElem?_eq_none (by simp; omega)]

end

namespace TwlIO
variable {σ : Type} {F : FileOps σ} {inv : σ → Prop} {abs : σ → AFile} (E : Bytes → Bytes)

def absTwl (abs : σ → AFile) (s : TwlIO σ) : AFile := xorFile (twlKs E s.counter) (abs s.reader)
def invTwl (inv : σ → Prop) (s : TwlIO σ) : Prop := inv s.reader

/-- the code's padded call: `data`, at stream position `cur`, is padded to whole blocks on both sides and goes through a
    block-reversing cipher started at the block of `cur` -/
theorem padded_apply (ctr cur : Nat) (dr : Bool) (data : Bytes) :
    let padded := zeros (cur % 16) ++ data ++ zeros (padAfter (cur % 16) data.length)
    ∃ o c', twlApply E ⟨ctr + cur / 16, 0, none⟩ dr padded = .ok (o, c') ∧
      slice o (cur % 16) (padded.length - padAfter (cur % 16) data.length - cur % 16) = xorWith (twlKs E ctr) cur data := by
  intro padded
  have hl : padded.length = cur % 16 + data.length + padAfter (cur % 16) data.length := by
    show (zeros (cur % 16) ++ data ++ zeros (padAfter (cur % 16) data.length)).length = _
    rw [List.length_append, List.length_append, zeros_length, zeros_length]
  refine ⟨_, _, twlApply_full E _ dr _ (by rw [hl]; exact pad16 _), ?_⟩
  rw [hl, Nat.add_sub_cancel, Nat.add_sub_cancel_left, slice_xorWith]
  show xorWith _ _ (slice (zeros (cur % 16) ++ data ++ zeros (padAfter (cur % 16) data.length)) _ _) = _
  rw [List.append_assoc, slice_append_right' _ _ _ 0 _ (by rw [zeros_length]; rfl), slice_prefix]
  exact xorWith_congr (twlKs_shift E ctr cur) data

theorem read_refines (hF : IsReadable F inv abs) (s : TwlIO σ) (n : Int) (h : invTwl inv s) :
    ∃ s', TwlIO.read F E s n = .ok (((absTwl E abs s).read n).1, s') ∧
      absTwl E abs s' = ((absTwl E abs s).read n).2 ∧ invTwl inv s' := by
  obtain ⟨r1, et, at1, vt⟩ := hF.tell s.reader h
  obtain ⟨r2, d, er, hd, ha, vr, _⟩ := inner_read_xor (twlKs E s.counter) hF r1 n vt
  rw [at1] at hd ha
  obtain ⟨o, c', eo, ho⟩ := padded_apply E s.counter (abs s.reader).pos true d
  refine ⟨{ s with reader := r2 }, ?_, ha, vr⟩
  simp only [TwlIO.read, et, er, bind, Except.bind, eo, ho]
  rw [hd]; rfl

theorem write_refines (hF : IsFileW F inv abs) (s : TwlIO σ) (w : Bytes) (h : invTwl inv s)
    (hg : (abs s.reader).noGap) :
    ∃ s', TwlIO.write F E s w = .ok (((absTwl E abs s).write w).1, s') ∧
      absTwl E abs s' = ((absTwl E abs s).write w).2 ∧ invTwl inv s' := by
  obtain ⟨r1, et, at1, vt⟩ := hF.tell s.reader h
  obtain ⟨r2, ew, ha, vr, _⟩ := inner_write_xor (twlKs E s.counter) hF r1 w vt (at1 ▸ hg)
  rw [at1] at ew ha
  obtain ⟨o, c', eo, ho⟩ := padded_apply E s.counter (abs s.reader).pos false w
  refine ⟨{ s with reader := r2 }, ?_, ha, vr⟩
  simp only [TwlIO.write, et, bind, Except.bind, eo, ho, ew]
  rfl

theorem twl_isReadable (hF : IsReadable F inv abs) :
    IsReadable (TwlIO.ops F E) (invTwl inv) (absTwl E abs) :=
  .of_sim (fun s n h => simG_opRel_ok.mpr (read_refines E hF s n h))
    (fun s off wh h => hF.sim_seek_through (xorWith_length _ 0) (fun r => { s with reader := r }) _ off wh h
      fun _ hi _ => ⟨rfl, hi⟩)
    (fun s h => hF.sim_tell_through (fun r => { s with reader := r }) _ h fun _ hi _ => ⟨rfl, hi⟩)

theorem twl_isFileW (hF : IsFileW F inv abs) : IsFileW (TwlIO.ops F E) (invTwl inv) (absTwl E abs) where
  toIsReadable := twl_isReadable E hF.toIsReadable
  write s w h hg := write_refines E hF s w h (hg.imp id fun hp => by rwa [absTwl, xorFile, xorWith_length] at hp)

theorem twl_isFile_of_fixed (hF : IsFileW F inv abs) (hfix : ∀ r, inv r → (abs r).fixed = true) :
    IsFile (TwlIO.ops F E) (invTwl inv) (absTwl E abs) :=
  (twl_isFileW E hF).isFile_of_fixed fun _ h => hfix _ h

end TwlIO
end Pyctr
