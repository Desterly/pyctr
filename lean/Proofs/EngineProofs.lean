/-
  C08: `set_keyslot` as one structural equation (`setKeyslot_eq`); the ghost bookkeeping `gstep` of what each slot's normal key
  must be, kept true by every key operation (`coherent_step`).  C08 / C14: one KeyY set on a list of slots (`setY_slots`).
-/
import PyctrModel.Engine.Engine
namespace Pyctr

theorem pyRol_eq (v r : Nat) (hr : r < 128) (hr0 : 0 < r) :
    pyRol v r 128 = ((BitVec.ofNat 128 v).rotateLeft r).toNat := by
  have _ := hr0   -- not needed: for `r = 0` the second disjunct is shifted out entirely and both sides are `v % 2 ^ 128`
  unfold pyRol
  apply Nat.eq_of_testBit_eq; intro i
  rw [Nat.mod_eq_of_lt hr, BitVec.testBit_toNat, BitVec.getLsbD_rotateLeft, Nat.mod_eq_of_lt hr]
  simp only [Nat.testBit_or, Nat.testBit_and, Nat.testBit_shiftLeft, Nat.testBit_shiftRight, Nat.testBit_two_pow_sub_one,
    BitVec.getLsbD_ofNat]
  by_cases hi : i < r
  · simp [hi, show ¬ i ≥ r by omega, show 128 - r + i < 128 by omega]
  · by_cases h128 : i < 128
    · simp [hi, h128, show i ≥ r by omega, show ¬ 128 - r + i < 128 by omega, show i - r < 128 by omega]
    · simp [hi, h128, show ¬ 128 - r + i < 128 by omega]

/-- the 3DS hardware key scrambler on 128-bit words -/
def scr3ds (x y : BitVec 128) : BitVec 128 :=
  ((x.rotateLeft 2 ^^^ y) + BitVec.ofNat 128 scramblerC3ds).rotateLeft 87
/-- the DSi hardware key scrambler -/
def scrTwl (x y : BitVec 128) : BitVec 128 :=
  ((x ^^^ y) + BitVec.ofNat 128 scramblerCTwl).rotateLeft 42

open Engine

/-- what the property statement demands of a slot's normal key after the operations so far -/
inductive Expect
  | formula              -- X and Y both set with updating on (or refreshed): the scrambler output
  | direct (k : Bytes)   -- a directly set normal key, not yet followed by a set of X or Y
  | free                 -- the statement makes no claim (deferred update pending, or nothing set)

structure GEngine where
  e : Engine
  g : Nat → Expect

/-- the key-setting calls of `CryptoEngine`: `set_keyslot('x' | 'y', slot, key, update_normal_key)`, `set_normal_key(slot, key)`,
    `update_normal_keys()` -/
inductive KeyOp
  | setX (slot key : Nat) (upd : Bool)
  | setY (slot key : Nat) (upd : Bool)
  | setNormal (slot : Nat) (k : Bytes)
  | refresh

/-- `set_keyslot` and `update_normal_keys` regenerate a normal key only when neither half is missing (the `KeyError` they swallow) -/
def hasBoth (e : Engine) (s : Nat) : Bool := (e.keyX s).isSome && (e.keyY s).isSome

/-- one call on the engine, and what it does to the demands: a set of X or Y withdraws the demand on its slot unless it
    regenerates the key; a refresh leaves the demands on the slots it does not regenerate -/
def gstep (ge : GEngine) : KeyOp → GEngine
  | .setX s k u =>
    let e' := ge.e.setKeyslot true s k u
    ⟨e', fun j => if j = s then (if u && hasBoth e' s then .formula else .free) else ge.g j⟩
  | .setY s k u =>
    let e' := ge.e.setKeyslot false s k u
    ⟨e', fun j => if j = s then (if u && hasBoth e' s then .formula else .free) else ge.g j⟩
  | .setNormal s k => ⟨ge.e.setNormal s k, fun j => if j = s then .direct k else ge.g j⟩
  | .refresh => ⟨ge.e.updateNormalKeys, fun j => if hasBoth ge.e j then .formula else ge.g j⟩

/-- the engine meets every demand of its ghost -/
def Coherent (ge : GEngine) : Prop :=
  ∀ s, match ge.g s with
    | .formula => ∃ x y, ge.e.keyX s = some x ∧ ge.e.keyY s = some y ∧ ge.e.normal s = some (keygenSlot s x y)
    | .direct k => ge.e.normal s = some k
    | .free => True

namespace Engine

@[simp] theorem upd_self {α : Type} (m : Nat → Option α) (k : Nat) (v : α) : upd m k v k = some v := by simp [upd]

@[simp] theorem upd_of_ne {α : Type} (m : Nat → Option α) (k : Nat) (v : α) (j : Nat) (h : j ≠ k) : upd m k v j = m j := by
  simp [upd, h]

theorem setKeyslot_eq (e : Engine) (isX : Bool) (s k : Nat) (u : Bool) :
    e.setKeyslot isX s k u =
      { keyX := if isX then upd e.keyX s k else e.keyX
        keyY := if isX then e.keyY else upd e.keyY s k
        dev := e.dev
        normal := match u, (if isX then upd e.keyX s k else e.keyX) s, (if isX then e.keyY else upd e.keyY s k) s with
          | true, some x, some y => upd e.normal s (keygenSlot s x y)
          | _, _, _ => e.normal } := by
  unfold setKeyslot
  cases isX <;> cases u <;> simp only [Bool.false_eq_true, if_false, if_true, upd_self]
  · cases e.keyX s <;> rfl
  · cases e.keyY s <;> rfl

theorem setKeyslot_keyX (e : Engine) (isX : Bool) (s k : Nat) (u : Bool) :
    (e.setKeyslot isX s k u).keyX = if isX then upd e.keyX s k else e.keyX := by rw [setKeyslot_eq]

theorem setKeyslot_keyY (e : Engine) (isX : Bool) (s k : Nat) (u : Bool) :
    (e.setKeyslot isX s k u).keyY = if isX then e.keyY else upd e.keyY s k := by rw [setKeyslot_eq]

@[simp] theorem setKeyslot_dev (e : Engine) (isX : Bool) (s k : Nat) (u : Bool) : (e.setKeyslot isX s k u).dev = e.dev := by
  rw [setKeyslot_eq]

theorem setKeyslot_normal_of_both (e : Engine) (isX : Bool) (s k : Nat) {x y : Nat}
    (hx : (e.setKeyslot isX s k true).keyX s = some x) (hy : (e.setKeyslot isX s k true).keyY s = some y) :
    (e.setKeyslot isX s k true).normal = upd e.normal s (keygenSlot s x y) := by
  rw [setKeyslot_keyX] at hx
  rw [setKeyslot_keyY] at hy
  rw [setKeyslot_eq]
  rw [hx, hy]

theorem setKeyslot_frame (e : Engine) (isX : Bool) (slot key : Nat) (u : Bool) (s : Nat) (hs : s ≠ slot) :
    (e.setKeyslot isX slot key u).normal s = e.normal s ∧ (e.setKeyslot isX slot key u).keyX s = e.keyX s ∧
    (e.setKeyslot isX slot key u).keyY s = e.keyY s := by
  refine ⟨?_, ?_, ?_⟩
  · rw [setKeyslot_eq]
    dsimp only
    generalize (if isX then upd e.keyX slot key else e.keyX) slot = x
    generalize (if isX then e.keyY else upd e.keyY slot key) slot = y
    split
    · exact upd_of_ne _ _ _ _ hs
    · rfl
  · rw [setKeyslot_keyX]
    split
    · exact upd_of_ne _ _ _ _ hs
    · rfl
  · rw [setKeyslot_keyY]
    split
    · rfl
    · exact upd_of_ne _ _ _ _ hs

theorem setY_keyY (e : Engine) (s k : Nat) (u : Bool) : (e.setKeyslot false s k u).keyY s = some k := by
  rw [setKeyslot_keyY]; exact upd_self ..

theorem setY_keyX (e : Engine) (s k : Nat) (u : Bool) : (e.setKeyslot false s k u).keyX = e.keyX := by
  rw [setKeyslot_keyX]; rfl

theorem setY_normal (e : Engine) (s k x : Nat) (hx : e.keyX s = some x) :
    (e.setKeyslot false s k true).normal s = some (keygenSlot s x k) := by
  rw [setKeyslot_normal_of_both e false s k (by rw [setY_keyX]; exact hx) (setY_keyY e s k true)]
  exact upd_self ..

theorem setY_cipherKey (e : Engine) (s k x : Nat) (hx : e.keyX s = some x) :
    (e.setKeyslot false s k true).cipherKey s = .ok (keygenSlot s x k) := by
  rw [cipherKey, setY_normal e s k x hx]

/-- `set_keyslot('y', s, kf s)` on each slot of a list in turn: what `setup_sd_key` does with three slots -/
theorem setY_slots (kf : Nat → Nat) (slots : List Nat) (e : Engine) (j : Nat) :
    let e' := slots.foldl (fun e s => e.setKeyslot false s (kf s) true) e
    e'.keyX j = e.keyX j ∧ e'.dev = e.dev ∧
    (j ∈ slots → e'.keyY j = some (kf j) ∧ ∀ x, e.keyX j = some x → e'.normal j = some (keygenSlot j x (kf j))) ∧
    (j ∉ slots → e'.keyY j = e.keyY j ∧ e'.normal j = e.normal j) := by
  induction slots generalizing e with
  | nil => simp
  | cons s rest ih =>
    obtain ⟨hx, hd, hin, hout⟩ := ih (e.setKeyslot false s (kf s) true)
    have hx1 := setY_keyX e s (kf s) true
    refine ⟨hx.trans (congrFun hx1 j), hd.trans (setKeyslot_dev ..), fun hj => ?_, fun hj => ?_⟩
    · by_cases hr : j ∈ rest
      · exact ⟨(hin hr).1, fun x hxj => (hin hr).2 x ((congrFun hx1 j).trans hxj)⟩
      · obtain rfl : j = s := by simpa [hr] using hj
        exact ⟨(hout hr).1.trans (setY_keyY e j _ true), fun x hxj => (hout hr).2.trans (setY_normal e j _ x hxj)⟩
    · rw [List.mem_cons, not_or] at hj
      obtain ⟨fn, _, fy⟩ := setKeyslot_frame e false s (kf s) true j hj.1
      exact ⟨(hout hj.2).1.trans fy, (hout hj.2).2.trans fn⟩

theorem setNormal_cipherKey (e : Engine) (s : Nat) (k : Bytes) : (e.setNormal s k).cipherKey s = .ok k := by
  simp [cipherKey, setNormal]

end Engine

/-- the three slots `setup_sd_key` sets (SD 0x34, CMAC-SD/NAND 0x30, DSiWare export 0x3A) -/
def Sd.sdSlot (s : Nat) : Prop := s = 0x34 ∨ s = 0x30 ∨ s = 0x3A

theorem Sd.sdSlot_iff_mem (s : Nat) : Sd.sdSlot s ↔ s ∈ [0x34, 0x30, 0x3A] := by
  simp only [Sd.sdSlot, List.mem_cons, List.not_mem_nil, or_false]

theorem hasBoth_iff (e : Engine) (s : Nat) : hasBoth e s = true ↔ ∃ x y, e.keyX s = some x ∧ e.keyY s = some y := by
  simp only [hasBoth, Bool.and_eq_true, Option.isSome_iff_exists]
  exact ⟨fun ⟨⟨x, hx⟩, y, hy⟩ => ⟨x, y, hx, hy⟩, fun ⟨x, y, hx, hy⟩ => ⟨⟨x, hx⟩, y, hy⟩⟩

theorem Coherent.slot {ge : GEngine} (h : Coherent ge) (e' : Engine) (s : Nat) (hx : e'.keyX s = ge.e.keyX s)
    (hy : e'.keyY s = ge.e.keyY s) (hn : e'.normal s = ge.e.normal s) :
    match ge.g s with
    | .formula => ∃ x y, e'.keyX s = some x ∧ e'.keyY s = some y ∧ e'.normal s = some (keygenSlot s x y)
    | .direct k => e'.normal s = some k
    | .free => True := by
  rw [hx, hy, hn]; exact h s

theorem coherent_setKeyslot (ge : GEngine) (h : Coherent ge) (isX : Bool) (s k : Nat) (u : Bool) :
    Coherent ⟨ge.e.setKeyslot isX s k u,
      fun j => if j = s then (if u && hasBoth (ge.e.setKeyslot isX s k u) s then .formula else .free) else ge.g j⟩ := by
  intro j
  by_cases hj : j = s
  · subst hj; simp only [if_true]
    by_cases hb : (u && hasBoth (ge.e.setKeyslot isX j k u) j) = true
    · simp only [hb, if_true]
      simp only [Bool.and_eq_true] at hb
      obtain ⟨rfl, hb⟩ := hb
      obtain ⟨x, y, hx, hy⟩ := (hasBoth_iff _ _).mp hb
      exact ⟨x, y, hx, hy, by rw [setKeyslot_normal_of_both _ _ _ _ hx hy]; exact upd_self ..⟩
    · simp only [hb]; trivial
  · simp only [hj, if_false]
    obtain ⟨c, a, b⟩ := setKeyslot_frame ge.e isX s k u j hj
    exact h.slot _ j a b c

theorem coherent_step (ge : GEngine) (h : Coherent ge) (op : KeyOp) : Coherent (gstep ge op) := by
  cases op with
  | setX s k u => exact coherent_setKeyslot ge h true s k u
  | setY s k u => exact coherent_setKeyslot ge h false s k u
  | setNormal s k =>
    intro j
    simp only [gstep]
    by_cases hj : j = s
    · subst hj; simp [setNormal]
    · simp only [hj, if_false]
      exact h.slot _ j rfl rfl (upd_of_ne _ _ _ _ hj)
  | refresh =>
    intro j
    simp only [gstep]
    by_cases hb : hasBoth ge.e j = true
    · simp only [hb, if_true]
      obtain ⟨x, y, hx, hy⟩ := (hasBoth_iff _ _).mp hb
      exact ⟨x, y, hx, hy, by simp [updateNormalKeys, hx, hy]⟩
    · simp only [hb]
      refine h.slot _ j rfl rfl ?_
      simp only [updateNormalKeys]
      split
      next x y hx hy => exact absurd ((hasBoth_iff _ _).mpr ⟨x, y, hx, hy⟩) hb
      next => rfl

theorem coherent_run (ops : List KeyOp) (ge : GEngine) (h : Coherent ge) : Coherent (ops.foldl gstep ge) := by
  induction ops generalizing ge with
  | nil => exact h
  | cons op ops ih => exact ih _ (coherent_step ge h op)

end Pyctr
