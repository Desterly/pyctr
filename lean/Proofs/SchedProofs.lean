/-
  C15: the lock discipline implies non-interference, for every schedule; threads that take their locks in rank order never
  deadlock.
-/
import PyctrModel.Sys.Sched
namespace Pyctr
namespace Sched
variable (guard : Nat → Nat)

def ok (c : TCfg) : Prop := disciplined guard c.todo.length c = true

/-- what holds of every thread in every reachable state -/
structure Inv (s : St) : Prop where
  -- its remaining program passes the discipline check from what it holds and has pending
  disc : ∀ (t : Nat) c, s.ths[t]? = some c → ok guard c
  nodup : ∀ (t : Nat) c, s.ths[t]? = some c → c.held.Nodup
  locks : ∀ (t : Nat) c l, s.ths[t]? = some c → (l ∈ c.held ↔ s.owner l = some t)
  -- the one that matters: a position it has pending is the object's position, and it holds the object's guard
  pend : ∀ (t : Nat) c x p, s.ths[t]? = some c → pendGet c.pend x = some p → guard x ∈ c.held ∧ s.pos x = p

section
variable {held : List Nat} {pend : List (Nat × Nat)} {rest : List Ev}

theorem ok_acq {l : Nat} : ok guard ⟨held, pend, .acq l :: rest⟩ ↔ l ∉ held ∧ ok guard ⟨l :: held, pend, rest⟩ := by
  simp [ok, disciplined, TCfg.advance]

theorem ok_rel {l : Nat} : ok guard ⟨held, pend, .rel l :: rest⟩ ↔
    l ∈ held ∧ ok guard ⟨held.erase l, pendDrop pend fun x => guard x == l, rest⟩ := by
  simp [ok, disciplined, TCfg.advance]

theorem ok_seek {x p : Nat} : ok guard ⟨held, pend, .seek x p :: rest⟩ ↔
    guard x ∈ held ∧ ok guard ⟨held, pendSet pend x p, rest⟩ := by
  simp [ok, disciplined, TCfg.advance]

theorem ok_use {x : Nat} : ok guard ⟨held, pend, .use x :: rest⟩ ↔
    (guard x ∈ held ∧ (pendGet pend x).isSome = true) ∧ ok guard ⟨held, pend, rest⟩ := by
  simp [ok, disciplined, TCfg.advance]
end

theorem advance_todo (c : TCfg) (e : Ev) (rest : List Ev) (h : c.todo = e :: rest) : (c.advance guard).todo = rest := by
  unfold TCfg.advance; rw [h]; cases e <;> rfl

theorem pendGet_filter (pend : List (Nat × Nat)) (g : Nat → Bool) (y : Nat) :
    pendGet (pend.filter fun e => g e.1) y = if g y then pendGet pend y else none := by
  unfold pendGet
  induction pend with
  | nil => simp
  | cons a as ih =>
    rw [List.filter_cons]
    by_cases hy : a.1 = y
    · subst hy
      cases hg : g a.1
      · simpa [hg] using ih
      · simp
    · -- the head is another object's entry: dropped or kept, the search for `y` passes it
      have hb : (a.1 == y) = false := by simpa using hy
      cases hg : g a.1
      · simp only [Bool.false_eq_true, if_false, List.find?_cons, hb]; exact ih
      · simp only [if_true, List.find?_cons, hb]; exact ih

theorem pendGet_set (pend : List (Nat × Nat)) (x p y : Nat) :
    pendGet (pendSet pend x p) y = if y = x then some p else pendGet pend y := by
  by_cases h : y = x
  · simp [pendGet, pendSet, h]
  · have hb : (x == y) = false := by simpa using Ne.symm h
    have := pendGet_filter pend (· != x) y
    simp only [bne_iff_ne, ne_eq, h, not_false_eq_true, if_true] at this
    simp only [pendGet, pendSet, List.find?_cons, hb, if_neg h] at this ⊢
    exact this

theorem pendGet_drop (pend : List (Nat × Nat)) (f : Nat → Bool) (y : Nat) :
    pendGet (pendDrop pend f) y = if f y then none else pendGet pend y := by
  rw [pendDrop, pendGet_filter pend (fun x => !f x) y]
  cases f y <;> rfl

theorem ths_set_get {ths : List TCfg} {t : Nat} {c : TCfg} (hc : ths[t]? = some c) (c' : TCfg) {u : Nat} {cu : TCfg}
    (h : (ths.set t c')[u]? = some cu) : (u = t ∧ cu = c') ∨ (u ≠ t ∧ ths[u]? = some cu) := by
  by_cases hut : t = u
  · subst hut
    rw [List.getElem?_set_self (List.getElem?_eq_some_iff.mp hc).1] at h
    exact .inl ⟨rfl, (Option.some.inj h).symm⟩
  · rw [List.getElem?_set_ne hut] at h
    exact .inr ⟨fun hh => hut hh.symm, h⟩

/-- the discipline check only looks at which objects have a pending position, not at the values -/
theorem disciplined_congr (n : Nat) : ∀ (c c' : TCfg), c.held = c'.held → c.todo = c'.todo →
    (∀ x, (pendGet c.pend x).isSome = (pendGet c'.pend x).isSome) → disciplined guard n c = disciplined guard n c' := by
  induction n with
  | zero => intro c c' _ ht _; simp only [disciplined, ht]
  | succ n ih =>
    intro ⟨held, pend, todo⟩ ⟨_, pend', _⟩ hh ht hp
    cases hh; cases ht
    cases todo with
    | nil => rfl
    | cons e rest =>
      cases e with
      | acq l => simp only [disciplined]; exact congrArg _ (ih _ _ (by rfl) (by rfl) hp)
      | rel l =>
        simp only [disciplined]
        refine congrArg _ (ih _ _ (by rfl) (by rfl) fun x => ?_)
        simp only [TCfg.advance, pendGet_drop]
        split
        · rfl
        · exact hp x
      | seek x p =>
        simp only [disciplined]
        refine congrArg _ (ih _ _ (by rfl) (by rfl) fun y => ?_)
        simp only [TCfg.advance, pendGet_set]
        split
        · rfl
        · exact hp y
      | use x => simp only [disciplined, hp x]; exact congrArg _ (ih _ _ (by rfl) (by rfl) hp)

theorem inv_iff {s : St} : Inv guard s ↔ ∀ (t : Nat) c, s.ths[t]? = some c →
    ok guard c ∧ c.held.Nodup ∧ (∀ l, l ∈ c.held ↔ s.owner l = some t) ∧
      ∀ x p, pendGet c.pend x = some p → guard x ∈ c.held ∧ s.pos x = p :=
  ⟨fun h t c hc => ⟨h.disc t c hc, h.nodup t c hc, fun l => h.locks t c l hc, fun x p => h.pend t c x p hc⟩,
    fun h => ⟨fun t c hc => (h t c hc).1, fun t c hc => (h t c hc).2.1, fun t c l hc => (h t c hc).2.2.1 l,
      fun t c x p hc => (h t c hc).2.2.2 x p⟩⟩

/-- thread `t` is replaced by `c'` and changes only locks it holds and positions whose guard it holds: the other threads keep
    their part of the invariant, so only `t`'s part is left to show -/
theorem inv_set {s : St} (hinv : Inv guard s) {t : Nat} {c : TCfg} (hc : s.ths[t]? = some c) (c' : TCfg) (pos' : Nat → Nat)
    (owner' : Nat → Option Nat) (hok : ok guard c') (hnd : c'.held.Nodup)
    (hown : ∀ l, l ∈ c'.held ↔ owner' l = some t)
    (hoth : ∀ l u, u ≠ t → (owner' l = some u ↔ s.owner l = some u))
    (hpend : ∀ x p, pendGet c'.pend x = some p → guard x ∈ c'.held ∧ pos' x = p)
    (hpos : ∀ x, pos' x = s.pos x ∨ s.owner (guard x) = some t) :
    Inv guard ⟨pos', owner', s.ths.set t c'⟩ := by
  refine (inv_iff guard).mpr fun u cu hu => ?_
  rcases ths_set_get hc c' hu with ⟨rfl, rfl⟩ | ⟨hne, hu'⟩
  · exact ⟨hok, hnd, hown, hpend⟩
  · obtain ⟨ok', nd', lk', pd'⟩ := (inv_iff guard).mp hinv u cu hu'
    refine ⟨ok', nd', fun l => (lk' l).trans (hoth l u hne).symm, fun x p hp => ?_⟩
    obtain ⟨h1, h2⟩ := pd' x p hp
    refine ⟨h1, (hpos x).elim (·.trans h2) fun h => ?_⟩
    -- the guard of `x` cannot be owned by `t`: `u`, another thread, holds it
    exact absurd (Option.some.inj (((lk' _).mp h1).symm.trans h)) hne

/-- a `seek`, and a `use` as far as the position goes -/
theorem inv_setPos {s : St} (hinv : Inv guard s) {t : Nat} {c : TCfg} (hc : s.ths[t]? = some c) (x q : Nat)
    (hg : guard x ∈ c.held) (rest : List Ev) (hok : ok guard ⟨c.held, pendSet c.pend x q, rest⟩) :
    Inv guard ⟨fun y => if y = x then q else s.pos y, s.owner, s.ths.set t ⟨c.held, pendSet c.pend x q, rest⟩⟩ := by
  have hlk := fun l => hinv.locks t c l hc
  refine inv_set guard hinv hc _ _ _ hok (hinv.nodup t c hc) hlk (fun _ _ _ => Iff.rfl) (fun y p hp => ?_) fun y => ?_
  · simp only [pendGet_set] at hp ⊢
    split at hp
    · rename_i hy; subst hy; exact ⟨hg, by simpa using hp⟩
    · rename_i hy; simp only [if_neg hy]; exact hinv.pend t c y p hc hp
  · by_cases hy : y = x
    · subst hy; exact Or.inr ((hlk _).mp hg)
    · exact Or.inl (if_neg hy)

theorem inv_acq {s : St} (hinv : Inv guard s) {t l : Nat} {held : List Nat} {pend : List (Nat × Nat)} {rest : List Ev}
    (hc : s.ths[t]? = some ⟨held, pend, .acq l :: rest⟩) (hfree : s.owner l = none) :
    Inv guard ⟨s.pos, fun m => if m = l then some t else s.owner m, s.ths.set t ⟨l :: held, pend, rest⟩⟩ := by
  obtain ⟨hok, hnd, hlk, hpd⟩ := (inv_iff guard).mp hinv t _ hc
  have hok := (ok_acq guard).mp hok
  refine inv_set guard hinv hc _ _ _ hok.2 (List.nodup_cons.mpr ⟨hok.1, hnd⟩) (fun m => ?_) (fun m u hne => ?_)
    (fun x p hp => ?_) (fun _ => Or.inl rfl)
  · show m ∈ l :: held ↔ (if m = l then some t else s.owner m) = some t
    by_cases hm : m = l
    · rw [if_pos hm]; exact ⟨fun _ => rfl, fun _ => hm ▸ List.mem_cons_self ..⟩
    · rw [if_neg hm, List.mem_cons]; exact ⟨fun h => (hlk m).mp (h.resolve_left hm), fun h => .inr ((hlk m).mpr h)⟩
  -- nobody else held `l`, and nobody else holds it afterwards
  · by_cases hm : m = l
    · rw [if_pos hm, hm, hfree]; exact ⟨fun h => absurd (Option.some.inj h).symm hne, fun h => nomatch h⟩
    · rw [if_neg hm]
  · exact ⟨List.mem_cons_of_mem _ (hpd x p hp).1, (hpd x p hp).2⟩

theorem inv_rel {s : St} (hinv : Inv guard s) {t l : Nat} {held : List Nat} {pend : List (Nat × Nat)} {rest : List Ev}
    (hc : s.ths[t]? = some ⟨held, pend, .rel l :: rest⟩) :
    Inv guard ⟨s.pos, fun m => if m = l then none else s.owner m,
      s.ths.set t ⟨held.erase l, pendDrop pend fun x => guard x == l, rest⟩⟩ := by
  obtain ⟨hok, hnd, hlk, hpd⟩ := (inv_iff guard).mp hinv t _ hc
  have hok := (ok_rel guard).mp hok
  refine inv_set guard hinv hc _ _ _ hok.2 (hnd.erase l) (fun m => ?_) (fun m u hne => ?_) (fun x p hp => ?_)
    (fun _ => Or.inl rfl)
  · show m ∈ held.erase l ↔ (if m = l then none else s.owner m) = some t
    by_cases hm : m = l
    · rw [if_pos hm, hm]; exact ⟨fun h => absurd h (List.Nodup.not_mem_erase hnd), fun h => nomatch h⟩
    · rw [if_neg hm, List.mem_erase_of_ne hm]; exact hlk m
  -- it was `t` that held `l`, nobody else, and nobody holds it afterwards
  · by_cases hm : m = l
    · rw [if_pos hm, hm, (hlk l).mp hok.1]; exact ⟨fun h => (nomatch h), fun h => absurd (Option.some.inj h).symm hne⟩
    · rw [if_neg hm]
  -- a position still pending is guarded by another lock
  · simp only [pendGet_drop] at hp
    split at hp
    · cases hp
    · rename_i hg
      exact ⟨(List.mem_erase_of_ne (by simpa using hg)).mpr (hpd x p hp).1, (hpd x p hp).2⟩

theorem step_inv (s s' : St) (t k : Nat) (o : Option (Nat × Nat)) (hinv : Inv guard s)
    (h : step guard s t k = some (s', o)) : Inv guard s' := by
  revert h
  fun_cases step guard s t k
  case case3 c hc l rest htodo hfree =>
    intro h; cases h
    obtain ⟨held, pend, _⟩ := c; cases htodo
    exact inv_acq guard hinv hc hfree
  case case5 c hc l rest htodo =>
    intro h; cases h
    obtain ⟨held, pend, _⟩ := c; cases htodo
    exact inv_rel guard hinv hc
  case case6 c hc x p rest htodo =>
    intro h; cases h
    obtain ⟨held, pend, _⟩ := c; cases htodo
    have hok := (ok_seek guard).mp (hinv.disc t _ hc)
    exact inv_setPos guard hinv hc x p hok.1 rest hok.2
  case case7 c hc x rest htodo =>
    intro h; cases h
    obtain ⟨held, pend, _⟩ := c; cases htodo
    have hok := (ok_use guard).mp (hinv.disc t _ hc)
    refine inv_setPos guard hinv hc x _ hok.1.1 rest ?_
    -- as `advance`, with the pending position of `x` (there is one) moved along
    refine Eq.trans (disciplined_congr guard rest.length _ (TCfg.advance guard ⟨held, pend, .use x :: rest⟩) rfl rfl
      fun y => ?_) hok.2
    simp only [TCfg.advance, pendGet_set]
    split
    · rename_i hy; subst hy; exact hok.1.2.symm
    · rfl
  -- no such thread, nothing left to run, a lock that is owned: no step
  all_goals exact fun h => nomatch h

/-- `obs` is the position thread `t` has pending for `x`: the one it set itself, or where its own last call left the object -/
def Expected (s : St) (t x obs : Nat) : Prop := ∃ c, s.ths[t]? = some c ∧ pendGet c.pend x = some obs

theorem use_observes_own (s s' : St) (t k x obs : Nat) (hinv : Inv guard s)
    (h : step guard s t k = some (s', some (x, obs))) : Expected s t x obs := by
  revert h
  fun_cases step guard s t k
  -- `use y`, the one step that observes
  case case7 c hc y rest htodo =>
    intro h
    cases h
    obtain ⟨held, pend, _⟩ := c
    cases htodo
    have hok := (ok_use guard).mp (hinv.disc t _ hc)
    obtain ⟨p, hp⟩ := Option.isSome_iff_exists.mp hok.1.2
    exact ⟨_, hc, by rw [hp, (hinv.pend t _ x p hc hp).2]⟩
  all_goals exact fun h => nomatch h

/-- a schedule: which thread runs next and how far its `use` (if it is one) moves the position; steps that are not enabled
    (blocked on a lock, thread finished) are skipped.  Returns the final state and the observations in order. -/
def run (s : St) : List (Nat × Nat) → St × List (Nat × Nat × Nat)
  | [] => (s, [])
  | (t, k) :: rest =>
    match step guard s t k with
    | none => run s rest
    | some (s', o) =>
      let (sf, log) := run s' rest
      (sf, match o with | some (x, p) => (t, x, p) :: log | none => log)

theorem run_preserves (P : St → Prop) (hstep : ∀ s s' t k o, P s → step guard s t k = some (s', o) → P s')
    (sched : List (Nat × Nat)) (s : St) (hP : P s) : P (run guard s sched).1 := by
  fun_induction run guard s sched
  case case1 => exact hP
  case case2 ih => exact ih hP
  case case3 hst sf log hrun ih =>
    have := ih (hstep _ _ _ _ _ hP hst)
    rwa [hrun] at this

theorem run_inv (sched : List (Nat × Nat)) (s : St) (h : Inv guard s) : Inv guard (run guard s sched).1 :=
  run_preserves guard _ (step_inv guard) sched s h

def initSt (progs : List (List Ev)) (pos : Nat → Nat) : St :=
  ⟨pos, fun _ => none, progs.map fun p => ⟨[], [], p⟩⟩

theorem initSt_get {progs : List (List Ev)} {pos : Nat → Nat} {t : Nat} {c : TCfg} (h : (initSt progs pos).ths[t]? = some c) :
    ∃ p, p ∈ progs ∧ c = ⟨[], [], p⟩ := by
  simp only [initSt, List.getElem?_map, Option.map_eq_some_iff] at h
  obtain ⟨p, hp, rfl⟩ := h
  exact ⟨p, List.mem_of_getElem? hp, rfl⟩

/-- follows the recursion of `run` and says of every observation `(t, x, p)` that `run` logs, in the state in which it is made,
    that it is the observing thread's own position -/
def RunOwn (s : St) : List (Nat × Nat) → Prop
  | [] => True
  | (t, k) :: rest =>
    match step guard s t k with
    | none => RunOwn s rest
    | some (s', o) => (match o with | some (x, p) => Expected s t x p | none => True) ∧ RunOwn s' rest

theorem run_own (sched : List (Nat × Nat)) (s : St) (hinv : Inv guard s) : RunOwn guard s sched := by
  fun_induction RunOwn guard s sched
  case case1 => trivial
  case case2 ih => exact ih hinv
  case case3 s t k rest s' o hst ih =>
    refine ⟨?_, ih (step_inv guard s s' t k o hinv hst)⟩
    match o with
    | none => trivial
    | some (x, p) => exact use_observes_own guard s s' t k x p hinv hst

/-! Progress: threads that take their locks in rank order never deadlock. -/

section Progress
variable (rank : Nat → Nat)

def inOrder (c : TCfg) : Prop := ordered guard rank c.todo.length c = true

theorem ordered_congr (n : Nat) : ∀ (c c' : TCfg), c.held = c'.held → c.todo = c'.todo →
    ordered guard rank n c = ordered guard rank n c' := by
  induction n with
  | zero => intro c c' hh ht; simp only [ordered, hh, ht]
  | succ n ih =>
    intro ⟨held, _, todo⟩ ⟨_, _, _⟩ hh ht
    cases hh; cases ht
    cases todo with
    | nil => rfl
    | cons e rest =>
      cases e with
      | acq l => simp only [ordered]; exact congrArg _ (ih _ _ (by rfl) (by rfl))
      | _ => simp only [ordered]; exact ih _ _ (by rfl) (by rfl)

theorem inOrder_advance (c : TCfg) (e : Ev) (rest : List Ev) (h : c.todo = e :: rest) (ho : inOrder guard rank c) :
    inOrder guard rank (c.advance guard) := by
  unfold inOrder at ho ⊢
  rw [advance_todo guard c e rest h]
  rw [h, List.length_cons, ordered, h] at ho
  cases e <;> simp only [Bool.and_eq_true] at ho
  · exact ho.2
  all_goals exact ho

theorem inOrder_head_acq (c : TCfg) (l : Nat) (rest : List Ev) (h : c.todo = .acq l :: rest) (ho : inOrder guard rank c) :
    ∀ x, x ∈ c.held → rank x < rank l := by
  unfold inOrder at ho
  rw [h, List.length_cons, ordered, h] at ho
  simp only [Bool.and_eq_true, List.all_eq_true, decide_eq_true_eq] at ho
  exact ho.1

theorem inOrder_finished (c : TCfg) (h : c.todo = []) (ho : inOrder guard rank c) : c.held = [] := by
  unfold inOrder at ho
  simp only [List.length_nil, ordered, h, List.isEmpty_nil, Bool.true_and, List.isEmpty_iff] at ho
  exact ho

/-- every thread's remaining program takes locks in rank order and ends with nothing held; a lock's owner is an existing thread -/
structure OrdInv (s : St) : Prop where
  ord : ∀ (t : Nat) c, s.ths[t]? = some c → inOrder guard rank c
  owner : ∀ l u, s.owner l = some u → ∃ c, s.ths[u]? = some c

theorem ordInv_set {s : St} (hinv : OrdInv guard rank s) {t : Nat} {c : TCfg} (hc : s.ths[t]? = some c) (c' : TCfg)
    (ps : Nat → Nat) (ow : Nat → Option Nat) (hc' : inOrder guard rank c')
    (how : ∀ l u, ow l = some u → u = t ∨ s.owner l = some u) : OrdInv guard rank ⟨ps, ow, s.ths.set t c'⟩ := by
  refine ⟨fun u cu hu => ?_, fun l u hlu => ?_⟩
  · rcases ths_set_get hc c' hu with ⟨_, rfl⟩ | ⟨_, hu'⟩
    · exact hc'
    · exact hinv.ord u cu hu'
  · by_cases hut : u = t
    · subst hut; exact ⟨c', List.getElem?_set_self (List.getElem?_eq_some_iff.mp hc).1⟩
    · obtain ⟨cu, hcu⟩ := hinv.owner l u ((how l u hlu).resolve_left hut)
      exact ⟨cu, (List.getElem?_set_ne (Ne.symm hut)).trans hcu⟩

theorem step_ordInv (s s' : St) (t k : Nat) (o : Option (Nat × Nat)) (hinv : OrdInv guard rank s)
    (h : step guard s t k = some (s', o)) : OrdInv guard rank s' := by
  revert h
  fun_cases step guard s t k
  -- `acq l`, the lock is free
  case case3 c hc l rest htodo hfree =>
    intro h; cases h
    refine ordInv_set guard rank hinv hc _ _ _ (inOrder_advance guard rank c _ rest htodo (hinv.ord t c hc)) fun m u hmu => ?_
    split at hmu
    · exact Or.inl (Option.some.inj hmu).symm
    · exact Or.inr hmu
  -- `rel l`
  case case5 c hc l rest htodo =>
    intro h; cases h
    refine ordInv_set guard rank hinv hc _ _ _ (inOrder_advance guard rank c _ rest htodo (hinv.ord t c hc)) fun m u hmu => ?_
    split at hmu
    · cases hmu
    · exact Or.inr hmu
  -- `seek x p`
  case case6 c hc x p rest htodo =>
    intro h; cases h
    exact ordInv_set guard rank hinv hc _ _ _ (inOrder_advance guard rank c _ rest htodo (hinv.ord t c hc)) fun _ _ => Or.inr
  -- `use x`
  case case7 c hc x rest htodo =>
    intro h; cases h
    refine ordInv_set guard rank hinv hc _ _ _ ?_ fun _ _ => Or.inr
    exact Eq.trans (ordered_congr guard rank _ _ (TCfg.advance guard c) rfl rfl)
      (inOrder_advance guard rank c _ rest htodo (hinv.ord t c hc))
  -- no such thread, nothing left to run, a lock that is owned: no step
  all_goals exact fun h => nomatch h

def allHeld (s : St) : List Nat := s.ths.flatMap (·.held)

def maxRank : List Nat → Nat
  | [] => 0
  | l :: r => max (rank l) (maxRank r)

theorem le_maxRank (ls : List Nat) (l : Nat) (h : l ∈ ls) : rank l ≤ maxRank rank ls := by
  induction ls with
  | nil => cases h
  | cons a r ih =>
    rcases List.mem_cons.mp h with h | h
    · subst h; exact Nat.le_max_left _ _
    · exact Nat.le_trans (ih h) (Nat.le_max_right _ _)

def Stuck (s : St) : Prop := ∀ t k, step guard s t k = none

theorem stuck_head (s : St) (hst : Stuck guard s) (t : Nat) (c : TCfg) (hc : s.ths[t]? = some c) (hne : c.todo ≠ []) :
    ∃ l rest u, c.todo = .acq l :: rest ∧ s.owner l = some u := by
  have h := hst t 0
  revert h
  fun_cases step guard s t 0
  case case1 hn => exact fun _ => nomatch hn.symm.trans hc
  case case2 c' hc' hnil =>
    obtain rfl := Option.some.inj (hc'.symm.trans hc)
    exact fun _ => absurd hnil hne
  -- `acq l` on a lock that is owned: the one event that cannot run
  case case4 c' hc' l rest htodo hown =>
    obtain rfl := Option.some.inj (hc'.symm.trans hc)
    obtain ⟨u, hu⟩ := Option.ne_none_iff_exists'.mp hown
    exact fun _ => ⟨l, rest, u, htodo, hu⟩
  all_goals exact fun h => nomatch h

theorem finished_or_step (s : St) (hinv : Inv guard s) (hord : OrdInv guard rank s) :
    (∀ (t : Nat) (c : TCfg), s.ths[t]? = some c → c.todo = []) ∨ ∃ t k r, step guard s t k = some r := by
  refine Classical.or_iff_not_imp_right.mpr fun hno t0 c0 h0 => Classical.byContradiction fun hne => ?_
  have hst : Stuck guard s := fun t k => Option.eq_none_iff_forall_ne_some.mpr fun r hs => hno ⟨t, k, r, hs⟩
  -- every owned lock leads to an owned lock of higher rank: impossible, the ranks of held locks are bounded
  have hclimb : ∀ d l u, s.owner l = some u → maxRank rank (allHeld s) - rank l < d → False := by
    intro d
    induction d with
    | zero => intro l u _ hd; omega
    | succ d ih =>
      intro l u hlu hd
      obtain ⟨cu, hcu⟩ := hord.owner l u hlu
      have hl : l ∈ cu.held := (hinv.locks u cu l hcu).mpr hlu
      have hune : cu.todo ≠ [] := by
        intro hfin
        rw [inOrder_finished guard rank cu hfin (hord.ord u cu hcu)] at hl
        cases hl
      obtain ⟨l', rest, u', htodo, hown'⟩ := stuck_head guard s hst u cu hcu hune
      have hlt := inOrder_head_acq guard rank cu l' rest htodo (hord.ord u cu hcu) l hl
      obtain ⟨cu', hcu'⟩ := hord.owner l' u' hown'
      have := le_maxRank rank (allHeld s) l' (List.mem_flatMap.mpr
        ⟨cu', List.mem_of_getElem? hcu', (hinv.locks u' cu' l' hcu').mpr hown'⟩)
      exact ih l' u' hown' (by omega)
  obtain ⟨l, rest, u, _, hown⟩ := stuck_head guard s hst t0 c0 h0 hne
  exact hclimb _ l u hown (Nat.lt_succ_self _)

theorem init_ordInv (progs : List (List Ev)) (pos : Nat → Nat)
    (h : ∀ p, p ∈ progs → ordered guard rank p.length ⟨[], [], p⟩ = true) : OrdInv guard rank (initSt progs pos) := by
  refine ⟨fun t c hc => ?_, fun l u hlu => nomatch hlu⟩
  obtain ⟨p, hp, rfl⟩ := initSt_get hc
  exact h p hp

theorem run_ordInv (sched : List (Nat × Nat)) (s : St) (h : OrdInv guard rank s) : OrdInv guard rank (run guard s sched).1 :=
  run_preserves guard _ (step_ordInv guard rank) sched s h
end Progress

end Sched
end Pyctr
