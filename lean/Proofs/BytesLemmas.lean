/-
  Lemma library for the byte-string vocabulary of `PyctrModel/Base/Bytes.lean`: `slice`, `overlay`, block-wise concatenations,
  the integer codecs `toLE` / `readLE` / `toBE` / `readBE`, Python slicing `pySlice`.
  Where `List` lemmas about `take` / `drop` do not reach, the proofs are extensional: `slice_getElem?` and `overlay_getElem?`
  turn an equation between byte strings into a case split on the index, and `omega` closes the cases.
-/
import PyctrModel.Base.Bytes
import Proofs.BitFields
namespace Pyctr

@[simp] theorem slice_length (d : Bytes) (a n : Nat) : (slice d a n).length = min n (d.length - a) := by
  simp [slice]

theorem slice_length_of_le (d : Bytes) {a n : Nat} (h : a + n ≤ d.length) : (slice d a n).length = n := by
  rw [slice_length]; exact Nat.min_eq_left (Nat.le_sub_of_add_le' h)

theorem slice_getElem? (d : Bytes) (a n i : Nat) :
    (slice d a n)[i]? = if i < n then d[a + i]? else none := by
  simp [slice, List.getElem?_take]

@[simp] theorem zeros_length (n : Nat) : (zeros n).length = n := by simp [zeros]

@[simp] theorem slice_zero_len (d : Bytes) (a : Nat) : slice d a 0 = [] := by simp [slice]

theorem slice_all (d : Bytes) (n : Nat) (h : d.length ≤ n) : slice d 0 n = d := by
  simp [slice, List.take_of_length_le h]

theorem slice_congr (b b' : Bytes) (a n : Nat) (h : ∀ i, a ≤ i → i < a + n → b'[i]? = b[i]?) :
    slice b' a n = slice b a n := by
  apply List.ext_getElem?; intro i
  simp only [slice_getElem?]
  split
  · exact h (a + i) (by omega) (by omega)
  · rfl

theorem eq_of_slice_eq (b b' : Bytes) (a n : Nat) (hout : ∀ i, i < a ∨ a + n ≤ i → b'[i]? = b[i]?)
    (h : slice b' a n = slice b a n) : b' = b := by
  apply List.ext_getElem?; intro i
  by_cases hi : i < a ∨ a + n ≤ i
  · exact hout i hi
  · have := congrArg (·[i - a]?) h
    simp only [slice_getElem?] at this
    rwa [if_pos (by omega), if_pos (by omega), show a + (i - a) = i by omega] at this

theorem slice_slice_clamp (d : Bytes) (a n b m : Nat) : slice (slice d a n) b m = slice d (a + b) (min m (n - b)) := by
  apply List.ext_getElem?; intro i
  simp only [slice_getElem?]
  by_cases h1 : i < m
  · by_cases h2 : b + i < n
    · rw [if_pos h1, if_pos h2, if_pos (by omega), Nat.add_assoc]
    · rw [if_pos h1, if_neg h2, if_neg (by omega)]
  · rw [if_neg h1, if_neg (by omega)]

theorem slice_slice (d : Bytes) (a n b m : Nat) (h : b + m ≤ n) :
    slice (slice d a n) b m = slice d (a + b) m := by
  rw [slice_slice_clamp, Nat.min_eq_left (by omega)]

theorem slice_of_block (A : Bytes) (x bs m : Nat) (h : x % bs + m ≤ bs) :
    slice A x m = slice (slice A (x / bs * bs) bs) (x % bs) m := by
  rw [slice_slice _ _ _ _ _ h, Nat.mul_comm, Nat.div_add_mod]

theorem slice_clamp (d : Bytes) (a n : Nat) : slice d a n = slice d a (min n (d.length - a)) := by
  rw [← slice_all d d.length (Nat.le_refl _), slice_slice_clamp, slice_slice_clamp]
  congr 1; simp only [slice_all d d.length (Nat.le_refl _)]; omega

theorem slice_drop (d : Bytes) (a n k : Nat) : (slice d a n).drop k = slice d (a + k) (n - k) := by
  simp only [slice, List.drop_take, List.drop_drop]

theorem slice_take (d : Bytes) (a n k : Nat) : (slice d a n).take k = slice d a (min k n) := by
  simp only [slice, List.take_take]

theorem slice_take_of_le (d : Bytes) (m off n : Nat) (h : off + n ≤ m) : slice (d.take m) off n = slice d off n := by
  apply slice_congr; intro i _ hi; rw [List.getElem?_take, if_pos (by omega)]

theorem slice_append_left (a b : Bytes) (p n : Nat) (h : p + n ≤ a.length) : slice (a ++ b) p n = slice a p n := by
  apply slice_congr; intro i _ hi; rw [List.getElem?_append_left (by omega)]

theorem slice_append_right (a b : Bytes) (p n : Nat) : slice (a ++ b) (a.length + p) n = slice b p n := by
  simp [slice, List.drop_length_add_append]

theorem slice_append_slice (c : Bytes) (p a b : Nat) : slice c p a ++ slice c (p + a) b = slice c p (a + b) := by
  simp only [slice]
  rw [List.take_add, ← List.drop_drop]

theorem slice_append_right' (a b : Bytes) (p q n : Nat) (h : p = a.length + q) : slice (a ++ b) p n = slice b q n := by
  subst h; exact slice_append_right a b q n

theorem slice_prefix (a b : Bytes) : slice (a ++ b) 0 a.length = a := by
  simp [slice]

theorem slice_zeros (m p n : Nat) (h : p + n ≤ m) : slice (zeros m) p n = zeros n := by
  simp only [slice, zeros, List.drop_replicate, List.take_replicate]; congr 1; omega

theorem getD_eq_slice (l : Bytes) (k : Nat) : l.getD k 0 = (slice l k 1).headD 0 := by
  simp [slice, List.getD_eq_getElem?_getD, List.headD_eq_head?_getD, List.head?_take]

theorem slice_past (d : Bytes) (a n : Nat) (h : d.length ≤ a) : slice d a n = [] := by
  rw [slice, List.drop_eq_nil_of_le h, List.take_nil]

theorem slice_append_span (a b : Bytes) (r n : Nat) (hr : r ≤ a.length) :
    slice (a ++ b) r n = slice a r n ++ slice b 0 (n - (a.length - r)) := by
  simp only [slice, List.drop_append_of_le_length hr, List.take_append, List.length_drop, List.drop_zero]

theorem slice_getD (d : Bytes) (a n i : Nat) (h : i < n) : (slice d a n).getD i 0 = d.getD (a + i) 0 := by
  rw [List.getD_eq_getElem?_getD, List.getD_eq_getElem?_getD, slice_getElem?, if_pos h]

theorem slice_map_range (g : Nat → UInt8) (L p m : Nat) (h : p + m ≤ L) :
    slice ((List.range L).map g) p m = (List.range m).map fun j => g (p + j) := by
  apply List.ext_getElem?; intro i
  rw [slice_getElem?, List.getElem?_map, List.getElem?_map]
  by_cases hi : i < m
  · rw [if_pos hi, List.getElem?_range (by omega), List.getElem?_range hi]; rfl
  · rw [if_neg hi, List.getElem?_eq_none (by simpa using hi)]; rfl

theorem getElem?_eq_some_getD (l : Bytes) (i : Nat) (h : i < l.length) : l[i]? = some (l.getD i 0) := by
  rw [List.getD_eq_getElem?_getD, List.getElem?_eq_getElem h]; rfl

theorem slice_one {l : Bytes} {i : Nat} {v : UInt8} (h : l[i]? = some v) : slice l i 1 = [v] := by
  simp [slice, List.take_one, h]

theorem take_append_slice (l : Bytes) (i w : Nat) : l.take i ++ slice l i w = l.take (i + w) := by
  have := slice_append_slice l 0 i w
  simpa only [slice, List.drop_zero, Nat.zero_add] using this

/-- `Laid b o segs`: the segments lie in `b` one after the other, the first at offset `o`.  With a literal list and
    the segment lengths as rewrite rules, `simp only [Laid, …]` turns it into one equation `slice b off n = seg`
    per field, in a single pass. -/
def Laid (b : Bytes) : Nat → List Bytes → Prop
  | _, [] => True
  | o, s :: r => slice b o s.length = s ∧ Laid b (o + s.length) r

theorem laid_append (pre : Bytes) (segs : List Bytes) (post : Bytes) :
    Laid (pre ++ segs.flatten ++ post) pre.length segs := by
  induction segs generalizing pre with
  | nil => trivial
  | cons s r ih =>
    refine ⟨?_, ?_⟩
    · rw [List.flatten_cons, List.append_assoc, List.append_assoc, slice_append_right' pre _ _ 0 _ (Nat.add_zero _).symm, slice_prefix]
    · have := ih (pre ++ s)
      rwa [List.length_append, List.append_assoc pre, ← List.flatten_cons] at this

theorem laid_flatten (segs : List Bytes) : Laid segs.flatten 0 segs := by
  simpa using laid_append [] segs []

theorem Laid.of_flatten {b : Bytes} {segs : List Bytes} (h : segs.flatten = b) : Laid b 0 segs :=
  h ▸ laid_flatten segs

theorem Laid.record {b : Bytes} {segs : List Bytes} (h : segs.flatten = b) :
    Laid b 0 segs ∧ b.length = (segs.map List.length).sum :=
  ⟨.of_flatten h, by rw [← h, List.length_flatten]⟩

/-! A byte string assembled from pieces of one size: length and the `i`-th piece, for the three shapes in which the models
build such strings: a list mapped (`flatMap_const`), a range mapped (`flatMap_range`), a list of strings (`flatten_const`). -/

theorem length_flatMap_const {α : Type} (f : α → Bytes) (k : Nat) (l : List α) (h : ∀ x ∈ l, (f x).length = k) :
    (l.flatMap f).length = k * l.length := by
  induction l with
  | nil => rfl
  | cons a t ih =>
    rw [List.flatMap_cons, List.length_append, ih (fun x hx => h x (List.mem_cons_of_mem _ hx)), h a List.mem_cons_self,
      List.length_cons, Nat.mul_succ, Nat.add_comm]

theorem length_flatMap_range (G : Nat → Bytes) (bs n : Nat) (h : ∀ b, b < n → (G b).length = bs) :
    ((List.range n).flatMap G).length = n * bs := by
  rw [length_flatMap_const G bs _ fun b hb => h b (List.mem_range.mp hb), List.length_range, Nat.mul_comm]

theorem length_flatten_const (hs : List Bytes) (k : Nat) (hl : ∀ x ∈ hs, x.length = k) : hs.flatten.length = hs.length * k := by
  rw [← List.flatMap_id, length_flatMap_const id k hs hl, Nat.mul_comm]

theorem slice_flatMap_const {α : Type} (f : α → Bytes) (k : Nat) (l : List α) (rest : Bytes)
    (hk : ∀ x ∈ l, (f x).length = k) (i : Nat) (hi : i < l.length) :
    slice (l.flatMap f ++ rest) (k * i) k = f l[i] := by
  have hs : l = l.take i ++ l[i] :: l.drop (i + 1) := by rw [List.getElem_cons_drop, List.take_append_drop]
  have hp := length_flatMap_const f k (l.take i) (fun x hx => hk x (List.mem_of_mem_take hx))
  rw [List.length_take_of_le (Nat.le_of_lt hi)] at hp
  conv => lhs; arg 1; rw [hs, List.flatMap_append, List.flatMap_cons, List.append_assoc, List.append_assoc]
  rw [slice_append_right' _ _ _ 0 _ (by rw [hp]; rfl), ← hk l[i] (List.getElem_mem hi), slice_prefix]

theorem slice_flatMap_range (G : Nat → Bytes) (bs nb : Nat) (hfull : ∀ b, b + 1 < nb → (G b).length = bs)
    (hle : ∀ b, b < nb → (G b).length ≤ bs) (b : Nat) (hb : b < nb) :
    slice ((List.range nb).flatMap G) (b * bs) bs = G b := by
  induction nb with
  | zero => omega
  | succ n ih =>
    have hlen := length_flatMap_range G bs n (fun b hb => hfull b (by omega))
    rw [List.range_succ, List.flatMap_append, List.flatMap_singleton]
    rcases Nat.lt_or_ge b n with hlt | hge
    · rw [slice_append_left _ _ _ _ (by rw [hlen]; have := Nat.mul_le_mul_right bs hlt; rw [Nat.succ_mul] at this; exact this)]
      exact ih (fun b hb => hfull b (by omega)) (fun b hb => hle b (by omega)) hlt
    · obtain rfl : b = n := by omega
      have := slice_append_right ((List.range b).flatMap G) (G b) 0 bs
      rw [hlen, Nat.add_zero] at this
      rw [this]; exact slice_all _ _ (hle b (by omega))

theorem slice_flatten_const (hs : List Bytes) (k : Nat) (hl : ∀ x ∈ hs, x.length = k) (i : Nat) (h : Bytes)
    (hh : hs[i]? = some h) : slice hs.flatten (i * k) k = h := by
  obtain ⟨hi, rfl⟩ := List.getElem?_eq_some_iff.mp hh
  have := slice_flatMap_const id k hs [] hl i hi
  rwa [List.flatMap_id, List.append_nil, Nat.mul_comm] at this

theorem flatten_slices_off (W : Bytes) (off bs m : Nat) :
    ((List.range m).map fun j => slice W (off + bs * j) bs).flatten = slice W off (bs * m) := by
  induction m with
  | zero => simp [slice]
  | succ m ih =>
    rw [List.range_succ, List.map_append, List.flatten_append, ih]
    simp only [List.map_cons, List.map_nil, List.flatten_cons, List.flatten_nil, List.append_nil]
    rw [slice_append_slice, Nat.mul_succ]

theorem flatten_slices (W : Bytes) (bs a m : Nat) :
    ((List.range m).map fun i => slice W ((a + i) * bs) bs).flatten = slice W (a * bs) (m * bs) := by
  have := flatten_slices_off W (a * bs) bs m
  simpa only [Nat.add_mul, Nat.mul_comm bs] using this

theorem overlay_length (d : Bytes) (a : Nat) (w : Bytes) :
    (overlay d a w).length = max d.length (a + w.length) := by
  simp only [overlay, zeros, List.length_append, List.length_take, List.length_replicate, List.length_drop]; omega

theorem overlay_length_inside (d : Bytes) (a : Nat) (w : Bytes) (h : a + w.length ≤ d.length) :
    (overlay d a w).length = d.length := by
  rw [overlay_length]; omega

theorem overlay_getElem? (d : Bytes) (a : Nat) (w : Bytes) (i : Nat) :
    (overlay d a w)[i]? =
      if i < a then (if i < d.length then d[i]? else some 0)
      else if i < a + w.length then w[i - a]?
      else d[i]? := by
  have hp : (d.take a ++ zeros (a - d.length)).length = a := by
    simp only [zeros, List.length_append, List.length_take, List.length_replicate]; omega
  unfold overlay
  rw [List.append_assoc (d.take a ++ _), List.getElem?_append, hp]
  split
  · rw [List.getElem?_append, List.length_take]
    split
    · rw [List.getElem?_take, if_pos (by omega), if_pos (by omega)]
    · rw [zeros, List.getElem?_replicate, if_pos (by omega), if_neg (by omega)]
  · rw [List.getElem?_append]
    split
    · rw [if_pos (by omega)]
    · rw [if_neg (by omega), List.getElem?_drop]; congr 1; omega

theorem overlay_getElem?_inside (d : Bytes) (a : Nat) (w : Bytes) (i : Nat) (h1 : a ≤ i) (h2 : i < a + w.length) :
    (overlay d a w)[i]? = w[i - a]? := by
  rw [overlay_getElem?, if_neg (by omega), if_pos h2]

theorem overlay_getElem?_outside (d : Bytes) (a : Nat) (w : Bytes) (i : Nat)
    (h : i < a ∧ i < d.length ∨ a + w.length ≤ i) : (overlay d a w)[i]? = d[i]? := by
  rw [overlay_getElem?]
  rcases h with h | h
  · rw [if_pos h.1, if_pos h.2]
  · rw [if_neg (by omega), if_neg (by omega)]

theorem overlay_nil (d : Bytes) (a : Nat) (h : a ≤ d.length) : overlay d a [] = d := by
  simp [overlay, zeros, show a - d.length = 0 by omega]

theorem overlay_full (d w : Bytes) (h : d.length ≤ w.length) : overlay d 0 w = w := by
  unfold overlay
  rw [List.take_zero, Nat.zero_sub, Nat.zero_add, List.drop_of_length_le h]
  simp [zeros]

namespace Save
theorem slice_overlay_inside (d : Bytes) (a : Nat) (w : Bytes) (a' n : Nat) (h1 : a ≤ a') (h2 : a' + n ≤ a + w.length) :
    slice (overlay d a w) a' n = slice w (a' - a) n := by
  apply List.ext_getElem?; intro i
  rw [slice_getElem?, slice_getElem?]
  split
  · rw [overlay_getElem?_inside _ _ _ _ (by omega) (by omega)]; congr 1; omega
  · rfl
end Save

theorem slice_overlay_same (d : Bytes) (a : Nat) (w : Bytes) : slice (overlay d a w) a w.length = w := by
  rw [Save.slice_overlay_inside _ _ _ _ _ (Nat.le_refl _) (Nat.le_refl _), Nat.sub_self]; exact slice_all _ _ (Nat.le_refl _)

theorem slice_overlay_outside (d : Bytes) (a : Nat) (w : Bytes) (a' n : Nat) (h : a' + n ≤ a ∨ a + w.length ≤ a')
    (hg : a ≤ d.length ∨ a' + n ≤ d.length) : slice (overlay d a w) a' n = slice d a' n :=
  slice_congr _ _ _ _ fun i _ _ => overlay_getElem?_outside d a w i (by omega)

/-- A write that lies inside a window `[off, off+size)` of `d` shows up in the window as the same write
    at the window-relative position (the window may run past the end of `d`). -/
theorem slice_overlay_window (d : Bytes) (off size p : Nat) (w : Bytes) (hw : p + w.length ≤ min size (d.length - off)) :
    slice (overlay d (off + p) w) off size = overlay (slice d off size) p w := by
  apply List.ext_getElem?; intro i
  rw [slice_getElem?]
  by_cases hi : i < size
  · rw [if_pos hi]
    by_cases h : p ≤ i ∧ i < p + w.length
    · rw [overlay_getElem?_inside _ _ _ _ (by omega) (by omega), overlay_getElem?_inside _ _ _ _ h.1 h.2]
      congr 1; omega
    · rw [overlay_getElem?_outside d (off + p) w (off + i) (by omega),
        overlay_getElem?_outside (slice d off size) p w i (by rw [slice_length]; omega), slice_getElem?, if_pos hi]
  · rw [if_neg hi, List.getElem?_eq_none]
    rw [overlay_length, slice_length]; omega

@[simp] theorem toLE_length (n v : Nat) : (toLE n v).length = n := by
  induction n generalizing v with
  | zero => rfl
  | succ m ih => simp [toLE, ih]

@[simp] theorem toBE_length (n v : Nat) : (toBE n v).length = n := by simp [toBE]

theorem readLE_toLE (n v : Nat) (h : v < 256 ^ n) : readLE (toLE n v) = v := by
  induction n generalizing v with
  | zero => simp at h; subst h; rfl
  | succ m ih =>
    simp only [toLE, readLE]
    have h1 : (UInt8.ofNat (v % 256)).toNat = v % 256 := by
      simp [UInt8.toNat_ofNat']
    rw [h1, ih (v / 256) (by rw [Nat.pow_succ] at h; omega)]
    omega

theorem toLE_readLE (b : Bytes) : toLE b.length (readLE b) = b := by
  induction b with
  | nil => rfl
  | cons x xs ih =>
    simp only [List.length_cons, toLE, readLE]
    have h1 : (x.toNat + 256 * readLE xs) % 256 = x.toNat := by have := x.toNat_lt; omega
    have h2 : (x.toNat + 256 * readLE xs) / 256 = readLE xs := by have := x.toNat_lt; omega
    rw [h1, h2, ih]
    simp

theorem readLE_append (a b : Bytes) : readLE (a ++ b) = readLE a + 256 ^ a.length * readLE b := by
  induction a with
  | nil => simp [readLE]
  | cons x a ih => simp only [List.cons_append, readLE, ih, List.length_cons, Nat.pow_succ]; rw [Nat.mul_add]; ac_rfl

theorem readBE_eq_readLE_reverse (d : Bytes) : readBE d = readLE d.reverse := by
  have h : ∀ (l : Bytes) (acc : Nat), l.foldl (fun acc b => acc * 256 + b.toNat) acc = acc * 256 ^ l.length + readLE l.reverse := by
    intro l
    induction l with
    | nil => intro acc; simp [readLE]
    | cons a t ih =>
      intro acc
      rw [List.foldl_cons, ih, List.reverse_cons, readLE_append, List.length_reverse, List.length_cons, Nat.pow_succ]
      simp only [readLE, Nat.mul_zero, Nat.add_zero, Nat.add_mul]; ac_rfl
  rw [readBE, h d 0]; simp

theorem readBE_toBE (n v : Nat) (h : v < 256 ^ n) : readBE (toBE n v) = v := by
  rw [readBE_eq_readLE_reverse, toBE, List.reverse_reverse, readLE_toLE n v h]

theorem readLE_lt : ∀ (d : Bytes), readLE d < 256 ^ d.length
  | [] => by simp [readLE]
  | b :: bs => by
    have ih := readLE_lt bs
    have hb : b.toNat < 256 := b.toNat_lt
    simp only [readLE, List.length_cons, Nat.pow_succ]
    omega

theorem readBE_lt (d : Bytes) : readBE d < 256 ^ d.length := by
  rw [readBE_eq_readLE_reverse]; simpa using readLE_lt d.reverse

theorem readLE_eq_zero : ∀ (d : Bytes), readLE d = 0 ↔ ∀ b ∈ d, b = 0
  | [] => by simp [readLE]
  | b :: bs => by
    have ih := readLE_eq_zero bs
    simp only [readLE, List.mem_cons, forall_eq_or_imp]
    constructor
    · intro h
      have h1 : b.toNat = 0 := by omega
      have h2 : readLE bs = 0 := by omega
      exact ⟨UInt8.toNat_inj.mp (by simpa using h1), ih.mp h2⟩
    · rintro ⟨h1, h2⟩
      rw [ih.mpr h2, h1]; rfl

theorem toLE_readLE_slice (d : Bytes) (off n : Nat) (h : off + n ≤ d.length) : toLE n (readLE (slice d off n)) = slice d off n := by
  have := toLE_readLE (slice d off n)
  rwa [slice_length, Nat.min_eq_left (by omega)] at this

theorem toNat_ofNat_pair (x : Nat) (h : x < 65536) : (UInt8.ofNat (x % 256)).toNat + 256 * (UInt8.ofNat (x / 256)).toNat = x := by
  rw [UInt8.toNat_ofNat', UInt8.toNat_ofNat', Nat.mod_mod, Nat.mod_eq_of_lt (Nat.div_lt_of_lt_mul h), Nat.mod_add_div]

theorem zeros_of_readLE_zero (d : Bytes) (h : readLE d = 0) : d = zeros d.length :=
  List.eq_replicate_iff.mpr ⟨rfl, (readLE_eq_zero d).mp h⟩

namespace Nand
theorem xorBytes_length (a b : Bytes) : (xorBytes a b).length = min a.length b.length := by simp [xorBytes]

theorem xorBytes_zeros_right (a : Bytes) : xorBytes a (zeros a.length) = a := by
  unfold xorBytes zeros
  induction a with
  | nil => rfl
  | cons x xs ih => simp [List.replicate_succ, ih]
end Nand

theorem xorBytes_cancel (a b : Bytes) (h : a.length = b.length) : xorBytes (xorBytes a b) b = a := by
  unfold xorBytes
  induction a generalizing b with
  | nil => simp
  | cons x xs ih =>
    cases b with
    | nil => simp at h
    | cons y ys =>
      simp only [List.length_cons, Nat.add_right_cancel_iff] at h
      simp only [List.zipWith_cons_cons, ih ys h, List.cons.injEq, and_true]
      rw [UInt8.xor_assoc, UInt8.xor_self, UInt8.xor_zero]

theorem xorBytes_self (a : Bytes) : xorBytes a a = zeros a.length := by
  unfold xorBytes zeros
  induction a with
  | nil => rfl
  | cons x xs ih =>
    simp only [List.zipWith_cons_cons, List.length_cons, List.replicate_succ, UInt8.xor_self]
    rw [ih]

theorem readLE_xorBytes (a b : Bytes) (h : a.length = b.length) : readLE (xorBytes a b) = readLE a ^^^ readLE b := by
  induction a generalizing b with
  | nil => cases b with | nil => simp [xorBytes, readLE] | cons _ _ => simp at h
  | cons x xs ih =>
    cases b with
    | nil => simp at h
    | cons y ys =>
      simp only [List.length_cons, Nat.add_right_cancel_iff] at h
      have := ih ys h
      unfold xorBytes at this ⊢
      simp only [List.zipWith_cons_cons, readLE, this, UInt8.toNat_xor]
      rw [xor_split _ _ _ _ (UInt8.toNat_lt x) (UInt8.toNat_lt y)]

theorem reverse_xorBytes (a b : Bytes) (h : a.length = b.length) : (xorBytes a b).reverse = xorBytes a.reverse b.reverse := by
  unfold xorBytes
  rw [List.reverse_zipWith h]

theorem readBE_xorBytes (a b : Bytes) (h : a.length = b.length) : readBE (xorBytes a b) = readBE a ^^^ readBE b := by
  rw [readBE_eq_readLE_reverse, readBE_eq_readLE_reverse, readBE_eq_readLE_reverse, reverse_xorBytes a b h,
    readLE_xorBytes _ _ (by simp [h])]

theorem rstrip_append_replicate {α : Type} [BEq α] [LawfulBEq α] (z : α) (n : List α) (k : Nat)
    (h : ∀ b, n.getLast? = some b → b ≠ z) :
    ((n ++ List.replicate k z).reverse.dropWhile (· == z)).reverse = n := by
  have h1 : (n ++ List.replicate k z).reverse.dropWhile (· == z) = n.reverse.dropWhile (· == z) := by
    rw [List.reverse_append, List.reverse_replicate]
    induction k with
    | zero => rfl
    | succ m ih => simp [List.replicate_succ, ih]
  rw [h1]
  cases hr : n.reverse with
  | nil => rw [← List.reverse_reverse n, hr]; rfl
  | cons a t =>
    have ha : (a == z) = false := by
      simpa using h a (by rw [List.getLast?_eq_head?_reverse, hr]; rfl)
    rw [List.dropWhile_cons, ha, ← hr]; exact List.reverse_reverse n

theorem ljust_length (d : Bytes) (n : Nat) (fill : UInt8) (h : d.length ≤ n) : (ljust d n fill).length = n := by
  simp only [ljust, List.length_append, List.length_replicate]; omega

/-- what a tamper result may conclude instead: the hash function is a parameter `H` of the theorems, nothing about it is assumed -/
def Collision (H : Bytes → Bytes) : Prop := ∃ x y, x ≠ y ∧ H x = H y

theorem pyIdx_neg (len : Nat) (i : Int) (hi : i < 0) : pyIdx len i = (len + i).toNat := if_pos hi

theorem pyIdx_nat (len a : Nat) : pyIdx len (a : Int) = min a len := by
  simp only [pyIdx]; rw [if_neg (by omega)]; rfl

/-- `d[:-k]` -/
theorem pySlice_dropLast (d : Bytes) (k : Nat) (hk : 0 < k) :
    pySlice d 0 (-(k : Int)) = d.take (d.length - k) := by
  simp only [pySlice, pyIdx, slice]
  have h1 : ¬ ((0 : Int) < 0) := by omega
  have h2 : (-(k : Int)) < 0 := by omega
  simp only [h1, h2, if_true, if_false, Int.toNat_zero, Nat.zero_min, List.drop_zero, Nat.sub_zero]
  congr 1; omega

theorem pySlice_range (d : Bytes) (a : Nat) (b : Int) (hb : 0 ≤ b) :
    pySlice d (a : Int) b = slice d (min a d.length) (min b.toNat d.length - min a d.length) := by
  simp only [pySlice, pyIdx]
  have h1 : ¬ ((a : Int) < 0) := by omega
  have h2 : ¬ (b < 0) := by omega
  simp only [h1, h2, if_false, Int.toNat_natCast]

theorem pySlice_natCast (d : Bytes) (a b : Nat) : pySlice d (a : Int) (b : Int) = slice d a (b - a) := by
  rw [pySlice_range _ _ _ (Int.natCast_nonneg b), Int.toNat_natCast]
  by_cases ha : a ≤ d.length
  · rw [Nat.min_eq_left ha]
    by_cases hb : b ≤ d.length
    · rw [Nat.min_eq_left hb]
    · rw [Nat.min_eq_right (Nat.le_of_not_le hb), slice_clamp d a (b - a),
        Nat.min_eq_right (Nat.sub_le_sub_right (Nat.le_of_not_le hb) a)]
  · rw [Nat.min_eq_right (Nat.le_of_not_le ha), slice_past d a _ (Nat.le_of_not_le ha),
      Nat.sub_eq_zero_of_le (Nat.min_le_right ..), slice_zero_len]

end Pyctr
