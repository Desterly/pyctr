/-
  The verification caches never change an answer (`getBlockG_sound`), and the verified level-4 reader returns slices of the
  verified view after any history (`lv4ReadG_spec`).
-/
import Proofs.SaveDpfs
import Proofs.SaveTamper
namespace Pyctr
theorem mem_getD_modify {α : Type} (l : List (List α)) (i j : Nat) (f : List α → List α) (x : α) :
    x ∈ (l.modify i f).getD j [] ↔ (i ≠ j ∧ x ∈ l.getD j []) ∨ (i = j ∧ ∃ old, l[j]? = some old ∧ x ∈ f old) := by
  rw [List.getD_eq_getElem?_getD, List.getElem?_modify, List.getD_eq_getElem?_getD]
  cases l[j]? with
  | none => simp
  | some old => by_cases hij : i = j <;> simp [hij]

namespace Save
variable (H : Bytes → Bytes) (rd : Nat → Nat → Nat → Except Err Bytes) (bsOf : Nat → Nat) (master : List Bytes)

theorem lookup_mem (c : Caches) (deepV : Bool) (idx block : Nat) (v : Option Bool)
    (h : c.lookup deepV idx block = some v) : (block, v) ∈ c.get deepV idx := by
  obtain ⟨p, hf, rfl⟩ := Option.map_eq_some_iff.mp h
  have hb : p.1 = block := by simpa using List.find?_some hf
  rw [← hb]
  exact List.mem_of_find?_eq_some hf

/-- level 1 has the one cache both kinds of result share -/
theorem mem_get_put (c : Caches) (deepV : Bool) (idx block : Nat) (v : Option Bool) (d' : Bool) (i' : Nat)
    (x : Nat × Option Bool) (h : x ∈ (c.put deepV idx block v).get d' i') :
    x ∈ c.get d' i' ∨ (x = (block, v) ∧ i' = idx ∧ (idx = 0 ∨ d' = deepV)) := by
  -- the model's local `upd` (overwrite the entry of `block`, or append one) only adds the new entry
  have upd : ∀ l : Cache, x ∈ (if l.any (·.1 == block) then l.map (fun p => if p.1 == block then (block, v) else p)
      else l ++ [(block, v)]) → x ∈ l ∨ x = (block, v) := by
    intro l h
    split at h
    · obtain ⟨p, hp, hx⟩ := List.mem_map.mp h
      split at hx
      · exact .inr hx.symm
      · exact .inl (hx ▸ hp)
    · exact (List.mem_append.mp h).imp_right fun h => by simpa using h
  -- levels 2-4: the two result caches are treated alike
  have hmod : ∀ l : List Cache, x ∈ (l.modify (idx - 1) fun l => if l.any (·.1 == block) then
        l.map (fun p => if p.1 == block then (block, v) else p) else l ++ [(block, v)]).getD (i' - 1) [] → idx ≠ 0 → i' ≠ 0 →
      x ∈ l.getD (i' - 1) [] ∨ (x = (block, v) ∧ i' = idx) := by
    intro l hm h0 hi
    rcases (mem_getD_modify _ _ _ _ _).mp hm with ⟨-, hm⟩ | ⟨hij, old, hold, hm⟩
    · exact .inl hm
    · rcases upd _ hm with hm | hm
      · left; rw [List.getD_eq_getElem?_getD, hold]; exact hm
      · exact .inr ⟨hm, by omega⟩
  unfold Caches.put at h
  unfold Caches.get at h ⊢
  by_cases h0 : idx = 0
  · rw [if_pos h0] at h
    by_cases hi : i' = 0
    · rw [if_pos hi] at h ⊢
      exact (upd _ h).imp_right fun h => ⟨h, by omega, Or.inl h0⟩
    · rw [if_neg hi] at h ⊢; exact .inl h
  · rw [if_neg h0] at h
    cases deepV with
    | true =>
      by_cases hi : i' = 0
      · rw [if_pos hi] at h ⊢; exact .inl h
      · rw [if_neg hi] at h ⊢
        cases d' with
        | true => exact (hmod c.deep h h0 hi).imp_right fun h => ⟨h.1, h.2, Or.inr rfl⟩
        | false => exact .inl h
    | false =>
      by_cases hi : i' = 0
      · rw [if_pos hi] at h ⊢; exact .inl h
      · rw [if_neg hi] at h ⊢
        cases d' with
        | true => exact .inl h
        | false => exact (hmod c.valid h h0 hi).imp_right fun h => ⟨h.1, h.2, Or.inr rfl⟩

theorem mem_get_drop (c : Caches) (idx blk : Nat) (deep : Bool) (lvl b : Nat) (v : Option Bool)
    (h : (b, v) ∈ (c.drop idx blk).get deep lvl) : (b, v) ∈ c.get deep lvl ∧ ¬ (lvl = idx ∧ b = blk) := by
  have hrm : ∀ l : Cache, (b, v) ∈ l.filter (·.1 != blk) → (b, v) ∈ l ∧ b ≠ blk := fun l hm => by
    have := List.mem_filter.mp hm
    exact ⟨this.1, by simpa using this.2⟩
  have hmod : ∀ l : List Cache, (b, v) ∈ (l.modify (idx - 1) (·.filter (·.1 != blk))).getD (lvl - 1) [] →
      (b, v) ∈ l.getD (lvl - 1) [] ∧ ¬ (lvl = idx ∧ b = blk) := by
    intro l hm
    rcases (mem_getD_modify _ _ _ _ _).mp hm with ⟨hne, hm⟩ | ⟨-, old, hold, hm⟩
    · exact ⟨hm, fun hc => hne (by omega)⟩
    · rw [List.getD_eq_getElem?_getD, hold]
      exact ⟨(hrm _ hm).1, fun hc => (hrm _ hm).2 hc.2⟩
  unfold Caches.drop at h
  unfold Caches.get at h ⊢
  by_cases hi : idx = 0
  · rw [if_pos hi] at h
    by_cases hl : lvl = 0
    · rw [if_pos hl] at h ⊢
      exact ⟨(hrm _ h).1, fun hc => (hrm _ h).2 hc.2⟩
    · rw [if_neg hl] at h ⊢
      exact ⟨h, fun hc => by omega⟩
  · rw [if_neg hi] at h
    by_cases hl : lvl = 0
    · rw [if_pos hl] at h ⊢
      exact ⟨h, fun hc => by omega⟩
    · rw [if_neg hl] at h ⊢
      cases deep with
      | true => exact hmod c.deep h
      | false => exact hmod c.valid h

theorem mem_get_dropRange (idx sb : Nat) (deep : Bool) (lvl b : Nat) (v : Option Bool) : ∀ (n : Nat) (c : Caches),
    (b, v) ∈ ((List.range n).foldl (fun c i => c.drop idx (sb + i)) c).get deep lvl →
    (b, v) ∈ c.get deep lvl ∧ ¬ (lvl = idx ∧ sb ≤ b ∧ b < sb + n) := by
  intro n
  induction n with
  | zero => intro c h; exact ⟨h, fun hc => by omega⟩
  | succ n ih =>
    intro c h
    rw [List.range_succ, List.foldl_append] at h
    obtain ⟨m1, m2⟩ := mem_get_drop _ idx (sb + n) deep lvl b v h
    obtain ⟨k1, k2⟩ := ih c m1
    exact ⟨k1, fun hc => by
      by_cases hb : b = sb + n
      · exact m2 ⟨hc.1, hb⟩
      · exact k2 ⟨hc.1, hc.2.1, by omega⟩⟩

theorem cacheOK_put (c : Caches) (hc : CacheOK H rd bsOf master c) (deepV : Bool) (idx block : Nat) (v : Option Bool)
    (hv : specValid H rd bsOf master deepV idx block = .ok v) :
    CacheOK H rd bsOf master (c.put deepV idx block v) := by
  intro d' i' b' v' hi hm
  rcases mem_get_put c deepV idx block v d' i' _ hm with h | ⟨hx, hi', hd⟩
  · exact hc d' i' b' v' hi h
  · cases hx
    subst hi'
    rcases hd with h0 | hd
    · -- level 1 is checked against its master hash alone: `deep` plays no part
      subst h0; simp only [specValid] at hv ⊢; exact hv
    · subst hd; exact hv

theorem getBlockG_sound (idx : Nat) (hidx : idx < 4) (block : Nat) (deep : Bool) (c : Caches)
    (hc : CacheOK H rd bsOf master c) (d : Bytes) (v : Option Bool) (c' : Caches)
    (h : getBlockG H rd bsOf master idx block true deep c = .ok (d, v, c')) :
    rd idx (block * bsOf idx) (bsOf idx) = .ok d ∧ specValid H rd bsOf master deep idx block = .ok v ∧
      CacheOK H rd bsOf master c' := by
  -- a miss: whatever is computed is the cache-free value and is stored
  have miss : ∀ (c0 : Caches) idx block deep (data : Bytes) w d v c', CacheOK H rd bsOf master c0 →
      rd idx (block * bsOf idx) (bsOf idx) = .ok data → specValid H rd bsOf master deep idx block = .ok w →
      (Except.ok (data, w, c0.put deep idx block w) : Except Err _) = .ok (d, v, c') →
      rd idx (block * bsOf idx) (bsOf idx) = .ok d ∧ specValid H rd bsOf master deep idx block = .ok v ∧
        CacheOK H rd bsOf master c' := by
    intro c0 idx block deep data w d v c' hc0 hr hs h
    obtain ⟨rfl, rfl, rfl⟩ : data = d ∧ w = v ∧ _ = c' := by simpa using h
    exact ⟨hr, hs, cacheOK_put H rd bsOf master c0 hc0 deep idx block w hs⟩
  -- `fun_induction` wants the arguments to be variables
  generalize hv : true = verify at h
  fun_induction getBlockG H rd bsOf master idx block verify deep c generalizing d v c'
  -- a hit, level 1 / levels 2-4
  case case3 block verify deep c data hr _ w hl | case8 up block verify deep c data hr _ w hl =>
    obtain ⟨rfl, rfl, rfl⟩ : data = d ∧ w = v ∧ c = c' := by simpa using h
    exact ⟨hr, hc deep _ block w hidx (lookup_mem c deep _ block w hl), hc⟩
  -- level 1, a miss: the block is compared with its master hash
  case case5 block verify deep c data hr _ _ mh hm w =>
    exact miss c 0 block deep data w d v c' hc hr (by simp only [specValid, hr, hm, w]) h
  -- levels 2-4, deep, the block above does not verify: its verdict is passed on
  case case11 up block verify c data hr _ ud uv c1 hg huv _ ih =>
    obtain ⟨-, hsu, hc1⟩ := ih (by omega) hc ud uv c1 rfl hg
    exact miss c1 (up + 1) block true data uv d v c' hc1 hr (by rw [specValid, hr]; simp [hsu, huv]) h
  -- levels 2-4, deep, the block above verifies: the block is compared with the hash stored one level up
  case case10 up block verify c data hr _ ud uv c1 hg huv _ cont ih =>
    obtain ⟨-, hsu, hc1⟩ := ih (by omega) hc ud uv c1 rfl hg
    simp only [cont] at h
    split at h
    · cases h
    · rename_i expected hx
      exact miss c1 (up + 1) block true data _ d v c' hc1 hr (by rw [specValid, hr]; simp [hsu, huv, hx]) h
  -- levels 2-4, shallow: only that comparison
  case case12 up block verify deep c data hr _ _ cont hd =>
    simp only [cont] at h
    split at h
    · cases h
    · rename_i expected hx
      exact miss c (up + 1) block deep data _ d v c' hc hr (by rw [specValid, hr]; simp [hd, hx]) h
  -- `verify = false` does not arise; the remaining branches are errors
  case case2 | case7 => subst hv; rename_i hnv; exact absurd hnv (by decide)
  all_goals exact nomatch h

theorem verifiedBlock_eq (L : Nat → Bytes) (b : Nat) (v : Option Bool)
    (hv : specValid H (rdOf L) bsOf master true 3 b = .ok v) :
    verifiedBlock H L bsOf master b =
      if v == some true then slice (L 3) (b * bsOf 3) (bsOf 3) else List.replicate (slice (L 3) (b * bsOf 3) (bsOf 3)).length 0xDD := by
  by_cases h : v = some true
  · rw [verifiedBlock_of_chainOK H bsOf master L b (hv.trans (by rw [h])), if_pos (by rw [h]; rfl)]
  · rw [verifiedBlock_of_not_chainOK H bsOf master L b fun hc => h (Except.ok.inj (hv.symm.trans hc)),
      if_neg fun hc => h (eq_of_beq hc)]

theorem lv4Blocks_sound (n sb : Nat) (c : Caches) (hc : CacheOK H rd bsOf master c) (bl : List Bytes) (c' : Caches)
    (h : lv4Blocks H rd bsOf master sb n c = .ok (bl, c')) :
    CacheOK H rd bsOf master c' ∧
      ∀ L, rd = rdOf L → bl = (List.range n).map (fun i => verifiedBlock H L bsOf master (sb + i)) := by
  fun_induction lv4Blocks H rd bsOf master sb n c generalizing bl c'
  case case1 c =>
    obtain ⟨rfl, rfl⟩ := Prod.mk.inj (Except.ok.inj h)
    exact ⟨hc, fun _ _ => rfl⟩
  case case4 sb n c d v c1 hg bl2 c2 hrest ih =>
    obtain ⟨rfl, rfl⟩ := Prod.mk.inj (Except.ok.inj h)
    obtain ⟨hd, hv, hc1⟩ := getBlockG_sound H rd bsOf master 3 (by omega) sb true c hc d v c1 hg
    obtain ⟨hc2, hb⟩ := ih hc1 bl2 c2 hrest
    refine ⟨hc2, ?_⟩
    rintro L rfl
    simp only [rdOf, Except.ok.injEq] at hd
    rw [List.range_succ_eq_map, List.map_cons, List.map_map, hb L rfl]
    simp only [Nat.add_zero]
    rw [verifiedBlock_eq H bsOf master L sb v hv, hd]
    congr 1
    apply List.map_congr_left; intro i _
    simp only [Function.comp, Nat.succ_eq_add_one]
    congr 1; omega
  all_goals exact nomatch h

theorem lv4ReadG_spec (size4 seek : Nat) (size : Int) (c : Caches) (hc : CacheOK H rd bsOf master c) (out : Bytes) (c' : Caches)
    (h : lv4ReadG H rd bsOf master size4 seek size c = .ok (out, c')) :
    CacheOK H rd bsOf master c' ∧
      ∀ L, rd = rdOf L → size4 = (L 3).length → 0 < bsOf 3 →
        out = slice (verifiedView H L bsOf master) seek (readCount size4 seek size) := by
  unfold lv4ReadG at h
  simp only at h
  rcases readCount_spec size4 seek size _ rfl with ⟨h0, hr⟩ | ⟨h0, ht, hp, hin⟩
  · rw [if_pos h0] at h
    obtain ⟨rfl, rfl⟩ := h
    exact ⟨hc, fun _ _ _ _ => by rw [hr, slice_zero_len]⟩
  · rw [if_neg h0, ht] at h
    generalize readCount size4 seek size = n at *
    obtain ⟨sb, eb, hr⟩ : ∃ sb eb, blockRange seek n (bsOf 3) = (sb, eb) := ⟨_, _, rfl⟩
    rw [hr] at h
    split at h
    · cases h
    · rename_i bl c1 hb
      obtain ⟨rfl, rfl⟩ := h
      obtain ⟨hc1, hbl⟩ := lv4Blocks_sound H rd bsOf master _ _ c hc bl _ hb
      refine ⟨hc1, ?_⟩
      rintro L rfl rfl hbs
      rw [hbl L rfl]
      exact joinTrim_blocks _ _ _ _ _ hbs hp
        (fun b hb => by rw [verifiedBlock_length, slice_length]; have := block_full _ _ _ hbs hb; omega)
        (fun b _ => by rw [verifiedBlock_length, slice_length]; exact Nat.min_le_left _ _)
        hr (block_lt_nblocks (L 3).length (bsOf 3) seek n hbs hp hin hr)
end Save
end Pyctr
