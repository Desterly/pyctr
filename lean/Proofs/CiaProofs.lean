/-
  C05 / C10: the content index of a CIA, byte by byte and bit by bit; the title key, recovered from the ticket and independent of
  what the engine loaded before (`titlekey_history`); which file a CDN directory selects and where it takes its key from; which
  bytes of a cartridge header matter (`Cci.partsOf_table`).
-/
import PyctrModel.Fmt.Cia
import PyctrModel.Fmt.Cci
import Proofs.BytesLemmas
import Proofs.EngineProofs
namespace Pyctr

theorem foldl_unless_append {α : Type} (skip : α → Bool) (l : List α) (acc : List α) :
    l.foldl (fun acc r => if skip r then acc else acc ++ [r]) acc = acc ++ l.filter fun r => !skip r := by
  induction l generalizing acc with
  | nil => simp
  | cons r rest ih =>
    rw [List.foldl_cons, ih, List.filter_cons]
    cases skip r <;> simp

theorem filterMap_congr_left {α β : Type} (f g : α → Option β) :
    ∀ (l : List α), (∀ a ∈ l, f a = g a) → l.filterMap f = l.filterMap g
  | [], _ => rfl
  | a :: l, h => by
    simp only [List.filterMap_cons]
    rw [h a (by simp), filterMap_congr_left f g l (fun b hb => h b (by simp [hb]))]

theorem UInt8.or_and_distrib_right (a b m : UInt8) : (a ||| b) &&& m = (a &&& m) ||| (b &&& m) :=
  UInt8.eq_of_toBitVec_eq (by simp [BitVec.and_or_distrib_right])

namespace Cia

theorem flag_and_mask (c : Bool) (a m : UInt8) (h : a &&& m = 0) : (if c then a else 0) &&& m = 0 := by
  cases c <;> simp [h]

theorem mkByte_test (f : Nat → Bool) (b : Nat) (hb : b < 8) :
    ((mkByte f &&& (0x80 >>> b.toUInt8)) != 0) = f b := by
  have h8 : b = 0 ∨ b = 1 ∨ b = 2 ∨ b = 3 ∨ b = 4 ∨ b = 5 ∨ b = 6 ∨ b = 7 := by omega
  unfold mkByte
  -- the mask distributes over the eight flags …
  simp only [UInt8.or_and_distrib_right]
  -- … and for each `b` seven of them vanish under it (the side goal `a &&& m = 0` of `flag_and_mask` holds by evaluation for
  -- exactly the seven other bits), which leaves `(if f b then m else 0) &&& m`
  rcases h8 with rfl | rfl | rfl | rfl | rfl | rfl | rfl | rfl
  all_goals simp (discharger := decide) only [flag_and_mask, UInt8.zero_or, UInt8.or_zero]
  all_goals cases f _ <;> rfl

theorem encodeIndex_length (s : List Nat) : (encodeIndex s).length = 0x2000 := by
  rw [encodeIndex, List.length_map, List.length_range]

theorem encodeIndex_byte (s : List Nat) (j : Nat) (hj : j < 0x2000) :
    (encodeIndex s).toArray.getD j 0 = mkByte fun b => s.contains (8 * j + b) := by
  rw [Array.getD_eq_getD_getElem?, List.getElem?_toArray, encodeIndex, List.getElem?_map, List.getElem?_range hj]
  rfl

end Cia

/-- the ticket holds the title key CBC-encrypted under the common key: a single block, so decrypting it is `D` of the block
    XOR the IV -/
theorem titlekey_recovered (E D : Bytes → Bytes → Bytes) (hED : ∀ k b, b.length = 16 → D k (E k b) = b)
    (hE : ∀ k b, b.length = 16 → (E k b).length = 16) (ck iv tk : Bytes) (htk : tk.length = 16) (hiv : iv.length = 16) :
    Engine.cbcDecBlocks D ck iv (E ck (xorBytes tk iv)) = tk := by
  have hx : (xorBytes tk iv).length = 16 := by simp [xorBytes, htk, hiv]
  have hl : (E ck (xorBytes tk iv)).length / 16 = 1 := by rw [hE _ _ hx]
  unfold Engine.cbcDecBlocks
  rw [hl]
  simp only [List.range_one, List.flatMap_cons, List.flatMap_nil, List.append_nil, Nat.mul_zero, if_true]
  rw [slice_all _ _ (by rw [hE _ _ hx]; exact Nat.le_refl _), hED _ _ hx]
  exact xorBytes_cancel tk iv (by rw [htk, hiv])

/-- the hypotheses about the block cipher are satisfiable (they speak about 16-byte blocks only: a version quantifying over
    inputs of every length would ask for an injection of all byte strings into 16-byte strings) -/
example : ∃ E D : Bytes → Bytes → Bytes, (∀ k b, b.length = 16 → D k (E k b) = b) ∧ (∀ k b, b.length = 16 → (E k b).length = 16) :=
  ⟨fun _ b => b.reverse, fun _ b => b.reverse, fun _ b _ => by simp, fun _ b hb => by simpa using hb⟩

namespace Engine

/-- the second half of `load_encrypted_titlekey`: once slot 0x3D holds the common key, decrypt the title key into slot 0x40 -/
def decryptTitlekey (D : Bytes → Bytes → Bytes) (e1 : Engine) (tk tid : Bytes) : Engine × Option Err :=
  match e1.cipherKey 0x3D with
  | .error err => (e1, some err)
  | .ok ck =>
    if (tid ++ zeros 8).length ≠ 16 then (e1, some .valueError)
    else if tk.length % 16 ≠ 0 then (e1, some .valueError)
    else (e1.setNormal 0x40 (cbcDecBlocks D ck (tid ++ zeros 8) tk), none)

theorem loadEncryptedTitlekey_eq (D : Bytes → Bytes → Bytes) (e : Engine) (tk : Bytes) (idx : Nat) (tid : Bytes) :
    loadEncryptedTitlekey D e tk idx tid =
      if e.dev ∧ idx = 0 then decryptTitlekey D (e.setNormal 0x3D devCommonKey0) tk tid
      else match commonKeyY[idx]? with
        | some ky => decryptTitlekey D (e.setKeyslot false 0x3D ky true) tk tid
        | none => (e, some .indexError) := by
  unfold loadEncryptedTitlekey decryptTitlekey
  split
  · rfl
  · cases commonKeyY[idx]? <;> rfl

theorem decryptTitlekey_frame (D : Bytes → Bytes → Bytes) (e1 : Engine) (tk tid : Bytes) :
    (decryptTitlekey D e1 tk tid).1.keyX = e1.keyX ∧ (decryptTitlekey D e1 tk tid).1.dev = e1.dev ∧
    ∀ s, s ≠ 0x40 → (decryptTitlekey D e1 tk tid).1.normal s = e1.normal s := by
  fun_cases decryptTitlekey D e1 tk tid
  case case4 => exact ⟨rfl, rfl, fun s hs => upd_of_ne _ _ _ _ hs⟩  -- the one branch that writes: slot 0x40
  all_goals exact ⟨rfl, rfl, fun _ _ => rfl⟩

theorem decryptTitlekey_congr (D : Bytes → Bytes → Bytes) (e1 e2 : Engine) (tk tid : Bytes)
    (h : e1.cipherKey 0x3D = e2.cipherKey 0x3D) :
    (decryptTitlekey D e1 tk tid).2 = (decryptTitlekey D e2 tk tid).2 ∧
    ((decryptTitlekey D e1 tk tid).2 = none →
      (decryptTitlekey D e1 tk tid).1.normal 0x40 = (decryptTitlekey D e2 tk tid).1.normal 0x40) := by
  unfold decryptTitlekey
  rw [h]
  split
  · exact ⟨rfl, nofun⟩
  · split
    · exact ⟨rfl, nofun⟩
    · split
      · exact ⟨rfl, nofun⟩
      · exact ⟨rfl, fun _ => by simp only [setNormal, upd_self]⟩

theorem loadEncryptedTitlekey_frame (D : Bytes → Bytes → Bytes) (e : Engine) (tk tid : Bytes) (idx : Nat) :
    (loadEncryptedTitlekey D e tk idx tid).1.keyX = e.keyX ∧ (loadEncryptedTitlekey D e tk idx tid).1.dev = e.dev := by
  rw [loadEncryptedTitlekey_eq]
  split
  · exact ⟨(decryptTitlekey_frame D _ tk tid).1, (decryptTitlekey_frame D _ tk tid).2.1⟩
  · split
    · obtain ⟨hx, hd, _⟩ := decryptTitlekey_frame D (e.setKeyslot false 0x3D ‹Nat› true) tk tid
      exact ⟨hx.trans (by rw [setKeyslot_keyX]; rfl), hd.trans (setKeyslot_dev ..)⟩
    · exact ⟨rfl, rfl⟩

theorem loadFromTicket_foldl_frame (D : Bytes → Bytes → Bytes) (prior : List Bytes) (e : Engine) :
    (prior.foldl (fun g t => (loadFromTicket D g t).1) e).keyX = e.keyX ∧
    (prior.foldl (fun g t => (loadFromTicket D g t).1) e).dev = e.dev := by
  induction prior generalizing e with
  | nil => exact ⟨rfl, rfl⟩
  | cons t ts ih =>
    have h1 : (loadFromTicket D e t).1.keyX = e.keyX ∧ (loadFromTicket D e t).1.dev = e.dev := by
      unfold loadFromTicket
      split
      · exact ⟨rfl, rfl⟩
      · exact loadEncryptedTitlekey_frame D e _ _ _
    exact ⟨(ih _).1.trans h1.1, (ih _).2.trans h1.2⟩

theorem loadFromTicket_eq (D : Bytes → Bytes → Bytes) (e : Engine) (ticket : Bytes) (h : 0x2AC ≤ ticket.length) :
    loadFromTicket D e ticket =
      loadEncryptedTitlekey D e (slice ticket 0x1BF 16) (ticket.getD 0x1F1 0).toNat (slice ticket 0x1DC 8) := by
  unfold loadFromTicket
  rw [if_neg (Nat.not_lt.mpr h)]

theorem loadFromTicket_take (D : Bytes → Bytes → Bytes) (e : Engine) (ticket : Bytes) (h : 0x2AC ≤ ticket.length) :
    loadFromTicket D e (ticket.take 0x2AC) = loadFromTicket D e ticket := by
  have hget : (ticket.take 0x2AC).getD 0x1F1 0 = ticket.getD 0x1F1 0 := by
    rw [List.getD_eq_getElem?_getD, List.getD_eq_getElem?_getD, List.getElem?_take_of_lt (by decide)]
  rw [loadFromTicket_eq D e _ (by rw [List.length_take]; exact Nat.le_min.mpr ⟨Nat.le_refl _, h⟩), loadFromTicket_eq D e _ h,
    slice_take_of_le _ _ _ _ (by decide), slice_take_of_le _ _ _ _ (by decide), hget]

end Engine

section
open Engine

/-- both engines reach `decryptTitlekey` with the same key in slot 0x3D: the dev key set directly, or the scrambler output of the
    shared KeyX and the table's KeyY -/
theorem titlekey_history (D : Bytes → Bytes → Bytes) (e e' : Engine) (tk tid : Bytes) (idx : Nat)
    (hd : e.dev = e'.dev) (x : Nat) (hx : e.keyX 0x3D = some x) (hx' : e'.keyX 0x3D = some x) :
    (Engine.loadEncryptedTitlekey D e tk idx tid).2 = (Engine.loadEncryptedTitlekey D e' tk idx tid).2 ∧
    ((Engine.loadEncryptedTitlekey D e tk idx tid).2 = none →
      (Engine.loadEncryptedTitlekey D e tk idx tid).1.normal 0x40 =
        (Engine.loadEncryptedTitlekey D e' tk idx tid).1.normal 0x40) := by
  rw [loadEncryptedTitlekey_eq, loadEncryptedTitlekey_eq, ← hd]
  split
  · exact decryptTitlekey_congr D _ _ tk tid (by rw [setNormal_cipherKey, setNormal_cipherKey])
  · split
    · exact decryptTitlekey_congr D _ _ tk tid (by rw [setY_cipherKey e _ _ x hx, setY_cipherKey e' _ _ x hx'])
    · exact ⟨rfl, nofun⟩

theorem Engine.loadEncryptedTitlekey_packed (E D : Bytes → Bytes → Bytes) (hED : ∀ k b, b.length = 16 → D k (E k b) = b)
    (hE : ∀ k b, b.length = 16 → (E k b).length = 16)
    (e : Engine) (x ky idx : Nat) (k tid : Bytes) (hx : e.keyX 0x3D = some x) (hk : k.length = 16) (htid : tid.length = 8)
    (hidx : commonKeyY[idx]? = some ky) (hnd : ¬ (e.dev = true ∧ idx = 0)) :
    (Engine.loadEncryptedTitlekey D e (E (keygenSlot 0x3D x ky) (xorBytes k (tid ++ zeros 8))) idx tid).2 = none ∧
    (Engine.loadEncryptedTitlekey D e (E (keygenSlot 0x3D x ky) (xorBytes k (tid ++ zeros 8))) idx tid).1.normal 0x40 = some k := by
  rw [loadEncryptedTitlekey_eq, if_neg hnd]
  simp only [hidx, decryptTitlekey, setY_cipherKey e _ ky x hx]
  have hiv : (tid ++ zeros 8).length = 16 := by simp [htid]
  have hxl : (xorBytes k (tid ++ zeros 8)).length = 16 := by simp [xorBytes, hk, hiv]
  rw [if_neg (by simp [hiv]), if_neg (by rw [hE _ _ hxl]; decide)]
  rw [titlekey_recovered E D hED hE _ _ k hk hiv]
  exact ⟨rfl, by simp only [setNormal, upd_self]⟩

end

namespace Cdn

theorem chooseFile_isSome (isfile : Bytes → Bool) (lo up : Bytes) :
    (chooseFile isfile lo up).isSome = (isfile lo || isfile up) := by
  unfold chooseFile
  cases isfile lo
  · cases isfile up <;> rfl
  · rfl

theorem setupKey_dec (D : Bytes → Bytes → Bytes) (e : Engine) (tid dec enc : Bytes) (idx : Nat) (cetk : Option Bytes)
    (h : dec ≠ []) : setupKey D e tid dec enc idx cetk = (e.setNormal 0x40 dec, none) := by
  unfold setupKey
  rw [if_pos h]

theorem setupKey_enc (D : Bytes → Bytes → Bytes) (e : Engine) (tid enc : Bytes) (idx : Nat) (cetk : Option Bytes)
    (h : enc ≠ []) : setupKey D e tid [] enc idx cetk = Engine.loadEncryptedTitlekey D e enc idx tid := by
  unfold setupKey
  rw [if_neg (fun h => h rfl), if_pos h]

theorem setupKey_cetk (D : Bytes → Bytes → Bytes) (e : Engine) (tid : Bytes) (idx : Nat) (t : Bytes) :
    setupKey D e tid [] [] idx (some t) = Engine.loadFromTicket D e (t.take 0x2AC) := by
  unfold setupKey
  rw [if_neg (fun h => h rfl), if_neg (fun h => h rfl)]

end Cdn

namespace Cci

/-- the only header bytes `CCIReader.__init__` looks at: magic, image size, media id, the partition table -/
def relevant (file : Bytes) (start : Nat) : Bytes × Bytes × Bytes × Bytes :=
  let header := slice file (start + 0x100) 0x100
  (slice header 0 4, slice header 4 4, slice header 8 8, slice header 0x20 0x40)

theorem partsOf_table (h h' : Bytes) (ht : slice h 0x20 0x40 = slice h' 0x20 0x40) : partsOf h = partsOf h' := by
  apply filterMap_congr_left
  intro i hi
  have hi8 : i < 8 := by simpa using hi
  have e1 : ∀ g : Bytes, le g (0x20 + 8 * i) 4 = readLE (slice (slice g 0x20 0x40) (8 * i) 4) := by
    intro g; unfold le; rw [slice_slice _ _ _ _ _ (by omega)]
  have e2 : ∀ g : Bytes, le g (0x24 + 8 * i) 4 = readLE (slice (slice g 0x20 0x40) (8 * i + 4) 4) := by
    intro g; unfold le; rw [slice_slice _ _ _ _ _ (by omega)]; congr 2; omega
  rw [e1 h, e1 h', e2 h, e2 h', ht]

end Cci

end Pyctr
