/-
  C03: the ExeFS keyslot ranges built by `load_sections` (`rangesFrom`: they tile the region and colour a byte "extra keyslot"
  exactly inside the extra intervals), and the merged ExeFS view over a tiling range list, byte by byte (`tiled_getElem?`).
-/
import PyctrModel.Fmt.Ncch
import Proofs.BytesLemmas
import Proofs.XorStream
namespace Pyctr
namespace Ncch

/-- colour (uses the extra keyslot?) of byte `p` according to a range list: the first range containing it -/
def colourAt (l : List KRange) (p : Nat) : Option Bool :=
  (l.find? fun g => g.lo ≤ p ∧ p < g.hi).map (·.extra)

/-- byte `p` lies inside one of the extra-keyslot intervals -/
def inExtra (ex : List (Nat × Nat)) (p : Nat) : Bool := ex.any fun iv => iv.1 ≤ p && p < iv.2

/-- intervals sorted by start, each well-formed, pairwise non-overlapping (touching allowed), all after `prev` -/
def SortedFrom : Nat → List (Nat × Nat) → Prop
  | _, [] => True
  | prev, iv :: rest => prev ≤ iv.1 ∧ iv.1 ≤ iv.2 ∧ SortedFrom iv.2 rest

theorem inExtra_cons (iv : Nat × Nat) (rest : List (Nat × Nat)) (p : Nat) :
    inExtra (iv :: rest) p = (decide (iv.1 ≤ p ∧ p < iv.2) || inExtra rest p) := by
  simp [inExtra]

theorem inExtra_false_before (ex : List (Nat × Nat)) (prev p : Nat) (h : SortedFrom prev ex) (hp : p < prev) :
    inExtra ex p = false := by
  induction ex generalizing prev with
  | nil => rfl
  | cons iv rest ih =>
    obtain ⟨h1, h2, h3⟩ := h
    have hp1 : p < iv.1 := Nat.lt_of_lt_of_le hp h1
    rw [inExtra_cons, ih iv.2 h3 (Nat.lt_of_lt_of_le hp1 h2), decide_eq_false (fun h => Nat.not_le_of_lt hp1 h.1), Bool.false_or]

theorem colourAt_cons (g : KRange) (l : List KRange) (p : Nat) :
    colourAt (g :: l) p = if g.lo ≤ p ∧ p < g.hi then some g.extra else colourAt l p := by
  unfold colourAt
  by_cases h : g.lo ≤ p ∧ p < g.hi <;> simp [h]

def rangeOrNil (a b : Nat) (c : Bool) : List KRange := if b > a then [⟨a, b, c⟩] else []

theorem colourAt_rangeOrNil (a b : Nat) (c : Bool) (l : List KRange) (p : Nat) :
    colourAt (rangeOrNil a b c ++ l) p = if a ≤ p ∧ p < b then some c else colourAt l p := by
  unfold rangeOrNil
  split
  · exact colourAt_cons _ l p
  · rw [if_neg (by omega)]; rfl

theorem rangesFrom_nil (size prev : Nat) : rangesFrom size prev [] = rangeOrNil prev size false := rfl

theorem rangesFrom_cons (size prev : Nat) (iv : Nat × Nat) (rest : List (Nat × Nat)) (h1 : prev ≤ iv.1) (h2 : iv.1 ≤ iv.2) :
    rangesFrom size prev (iv :: rest) = rangeOrNil prev iv.1 false ++ (rangeOrNil iv.1 iv.2 true ++ rangesFrom size iv.2 rest) := by
  simp only [rangesFrom, rangeOrNil, Nat.max_eq_left h1]
  congr 1
  by_cases h : iv.2 > iv.1
  · rw [if_pos h, if_pos h]; rfl
  · rw [if_neg h, if_neg h, Nat.le_antisymm (Nat.le_of_not_lt h) h2]; rfl

theorem rangesFrom_colour (size : Nat) (ex : List (Nat × Nat)) (prev : Nat) (hs : SortedFrom prev ex)
    (hin : ∀ iv ∈ ex, iv.2 ≤ size) (p : Nat) (hlo : prev ≤ p) (hhi : p < size) :
    colourAt (rangesFrom size prev ex) p = some (inExtra ex p) := by
  induction ex generalizing prev with
  | nil => rw [rangesFrom_nil, ← List.append_nil (rangeOrNil _ _ _), colourAt_rangeOrNil, if_pos ⟨hlo, hhi⟩]; rfl
  | cons iv rest ih =>
    obtain ⟨h1, h2, h3⟩ := hs
    rw [rangesFrom_cons size prev iv rest h1 h2, colourAt_rangeOrNil, colourAt_rangeOrNil]
    by_cases hp1 : p < iv.1
    · rw [if_pos ⟨hlo, hp1⟩, inExtra_false_before (iv :: rest) iv.1 p ⟨Nat.le_refl _, h2, h3⟩ hp1]
    · have hp1' : iv.1 ≤ p := Nat.le_of_not_lt hp1
      rw [if_neg (fun h => hp1 h.2), inExtra_cons]
      by_cases hp2 : p < iv.2
      · rw [if_pos ⟨hp1', hp2⟩, decide_eq_true (⟨hp1', hp2⟩ : iv.1 ≤ p ∧ p < iv.2), Bool.true_or]
      · rw [if_neg (fun h => hp2 h.2), ih iv.2 h3 (fun iv' h => hin iv' (List.mem_cons_of_mem _ h)) (Nat.le_of_not_lt hp2),
          decide_eq_false (fun h => hp2 h.2 : ¬ (iv.1 ≤ p ∧ p < iv.2)), Bool.false_or]

/-- ranges that tile `[from, to)` without gaps or overlaps -/
def Tiles : List KRange → Nat → Nat → Prop
  | [], a, b => a = b
  | g :: rest, a, b => g.lo = a ∧ g.lo < g.hi ∧ Tiles rest g.hi b

theorem tiles_rangeOrNil {a b e : Nat} (c : Bool) {l : List KRange} (h : a ≤ b) (ht : Tiles l b e) :
    Tiles (rangeOrNil a b c ++ l) a e := by
  unfold rangeOrNil
  split
  · exact ⟨rfl, by assumption, ht⟩
  · rw [show a = b by omega]; exact ht

theorem rangesFrom_tiles (size : Nat) (ex : List (Nat × Nat)) (prev : Nat) (hs : SortedFrom prev ex)
    (hin : ∀ iv ∈ ex, iv.2 ≤ size) (hprev : prev ≤ size) :
    Tiles (rangesFrom size prev ex) prev size := by
  induction ex generalizing prev with
  | nil => rw [rangesFrom_nil, ← List.append_nil (rangeOrNil _ _ _)]; exact tiles_rangeOrNil false hprev rfl
  | cons iv rest ih =>
    obtain ⟨h1, h2, h3⟩ := hs
    rw [rangesFrom_cons size prev iv rest h1 h2]
    exact tiles_rangeOrNil false h1 (tiles_rangeOrNil true h2
      (ih iv.2 h3 (fun iv' h => hin iv' (List.mem_cons_of_mem _ h)) (hin iv (List.mem_cons_self ..))))

theorem Tiles.le : ∀ {l : List KRange} {a b : Nat}, Tiles l a b → a ≤ b
  | [], _, _, h => Nat.le_of_eq h
  | _ :: _, _, _, h => h.1 ▸ Nat.le_trans (Nat.le_of_lt h.2.1) (Tiles.le h.2.2)

/-- `f c` is the whole buffer as transformed under colour `c` -/
theorem tiled_getElem? (f : Bool → Bytes) (n : Nat) (hf : ∀ c, (f c).length = n)
    (l : List KRange) (a b : Nat) (ht : Tiles l a b) (hb : b ≤ n) (p : Nat) (hp : a ≤ p) (hpb : p < b) :
    (l.flatMap fun g => slice (f g.extra) g.lo (g.hi - g.lo))[p - a]? =
      (f ((colourAt l p).getD false))[p]? := by
  induction l generalizing a with
  | nil => simp only [Tiles] at ht; omega
  | cons g rest ih =>
    obtain ⟨hlo, hlt, hrest⟩ := ht
    subst hlo
    have hghi : g.hi ≤ b := hrest.le
    have hlen : (slice (f g.extra) g.lo (g.hi - g.lo)).length = g.hi - g.lo :=
      slice_length_of_le _ (by rw [hf, Nat.add_sub_cancel' (Nat.le_of_lt hlt)]; exact Nat.le_trans hghi hb)
    simp only [List.flatMap_cons, colourAt_cons]
    by_cases hin : p < g.hi
    · have hlt' : p - g.lo < g.hi - g.lo := Nat.sub_lt_sub_right hp hin
      rw [if_pos ⟨hp, hin⟩, List.getElem?_append_left (by rw [hlen]; exact hlt'), slice_getElem?, if_pos hlt', Nat.add_sub_cancel' hp]
      rfl
    · rw [if_neg (fun h => hin h.2), List.getElem?_append_right (by rw [hlen]; exact Nat.sub_le_sub_right (Nat.le_of_not_lt hin) _),
        hlen, Nat.sub_sub, Nat.add_sub_cancel' (Nat.le_of_lt hlt)]
      exact ih g.hi hrest (Nat.le_of_not_lt hin)

theorem ctrAt_eq_xorWith (E : Bytes → Bytes → Bytes) (k : Bytes) (iv pos : Nat) (d : Bytes) :
    ctrAt E k iv pos d = d.mapIdx (fun i b => b ^^^ ksByte (E k) iv (pos + i)) := rfl

theorem ctrAt_xorWith (E : Bytes → Bytes → Bytes) (k : Bytes) (iv pos : Nat) (d : Bytes) :
    ctrAt E k iv pos d = xorWith (ksByte (E k) iv) pos d := rfl

end Ncch
end Pyctr
