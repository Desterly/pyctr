/-
  `CBCFileIO` in two steps.  Run on the abstract file itself, the wrapper's `read` is computed once and for all positions and
  sizes (`cbc_read_pure`, resting on `cbc_window`).  Over any readable file it does, call by call, what it does there (`read_sim`).
-/
import PyctrModel.Crypto.Wrappers
import Proofs.Sim
namespace Pyctr
section
variable (D : Bytes → Bytes)

theorem plainCbc_length (iv ct : Bytes) : (plainCbc D iv ct).length = ct.length := by simp [plainCbc]

/-- the key fact of C02: an aligned window decrypts by itself, chained from the ciphertext block before it (the IV at the start) -/
theorem cbc_window (IV c : Bytes) (p0 m : Nat) (hp0 : p0 % 16 = 0) (hm : m % 16 = 0)
    (hle : p0 + m ≤ c.length) (hIV : IV.length = 16) :
    cbcDecrypt D (if p0 = 0 then IV else slice c (p0 - 16) 16) (slice c p0 m) =
      .ok (slice (plainCbc D IV c) p0 m) := by
  obtain ⟨t, rfl⟩ : ∃ t, p0 = 16 * t := ⟨p0 / 16, by omega⟩
  have h16t : 16 * t ≠ 0 → 16 ≤ 16 * t := fun h => by omega
  have hivl : (if 16 * t = 0 then IV else slice c (16 * t - 16) 16).length = 16 := by
    split
    · exact hIV
    · rename_i hz
      exact slice_length_of_le c (by rw [Nat.sub_add_cancel (h16t hz)]; exact Nat.le_trans (Nat.le_add_right ..) hle)
  have hdl : (slice c (16 * t) m).length = m := slice_length_of_le c hle
  rw [cbcDecrypt, if_neg (by rw [hivl]; decide), if_neg (by rw [hdl, hm]; decide), hdl, plainCbc,
    slice_map_range _ _ _ _ hle]
  congr 1
  apply List.map_congr_left
  intro j hj
  have hj := List.mem_range.mp hj
  rw [Nat.mul_add_div (by decide), Nat.add_mul, Nat.mul_comm t, Nat.mul_add_mod, slice_slice _ _ _ _ _ (block_end hm hj)]
  congr 1
  -- the byte a plaintext byte is chained with: in the first block of the window it comes from the IV or from the block before
  -- the window, later from the window itself
  by_cases h16 : j < 16
  · rw [if_pos h16]
    by_cases hz : 16 * t = 0
    · rw [if_pos hz, if_pos (by rw [hz, Nat.zero_add]; exact h16), hz, Nat.zero_add]
    · rw [if_neg hz, if_neg (Nat.not_lt.mpr (Nat.le_trans (h16t hz) (Nat.le_add_right ..))), slice_getD _ _ _ _ h16,
        Nat.sub_add_comm (h16t hz)]
  · have h16 := Nat.le_of_not_lt h16
    rw [if_neg (Nat.not_lt.mpr h16), if_neg (Nat.not_lt.mpr (Nat.le_trans h16 (Nat.le_add_left ..))),
      slice_getD _ _ _ _ (Nat.lt_of_le_of_lt (Nat.sub_le ..) hj), Nat.add_sub_assoc h16]

/-- the optional read that pads the data to a block boundary is a read of `(-total) % 16` bytes -/
theorem padRead_eq (a : AFile) (t : Nat) :
    (if t % 16 ≠ 0 then AFile.ops.read a (16 - ((t % 16 : Nat) : Int)) else .ok ([], a)) =
      AFile.ops.read a (((16 - t % 16) % 16 : Nat) : Int) := by
  split
  · rename_i h
    rw [Nat.mod_eq_of_lt (Nat.sub_lt (by decide) (Nat.pos_of_ne_zero h)),
      Int.ofNat_sub (Nat.le_of_lt (Nat.mod_lt _ (by decide)))]
    rfl
  · rename_i h
    rw [Decidable.not_not.mp h, ops_read, AFile.read_natCast]; rfl

theorem toNat_add_sub (x y : Nat) : ((x : Int) + ((y : Int) - x)).toNat = y := by omega

/-- one `read` at `q + b` (`q` block-aligned, `b < 16`) of `k` bytes from a file of `L` bytes: `b₁` bytes are read before the data and
    `ka` after it, together one aligned window inside the file.  The fields have the shape in which the code's expressions come up. -/
structure CbcGeom (L q b k b₁ ka : Nat) : Prop where
  before : min b (L - q) = b₁
  after : (16 - (b₁ + k) % 16) % 16 = ka
  avail : L - (q + b₁) = L - (q + b)
  data : min k (L - (q + b₁)) = k
  pad : min ka (L - (q + b₁ + k)) = ka
  aligned : (b₁ + k + ka) % 16 = 0
  inside : q + (b₁ + k + ka) ≤ L
  cut : min k (b₁ + k + ka - b) = k

/-- inside the data `b₁ = b`; at its very end (`q = L`) all three reads are empty -/
theorem cbc_geom (L q b k : Nat) (hL : L % 16 = 0) (hq : q % 16 = 0) (hqL : q ≤ L) (hb : b < 16)
    (hk : k ≤ L - (q + b)) : ∃ b₁ ka, CbcGeom L q b k b₁ ka := by
  by_cases h : q = L
  · subst h
    have : k = 0 := Nat.le_zero.mp (Nat.le_trans hk (Nat.le_of_eq (Nat.sub_eq_zero_of_le (Nat.le_add_right ..))))
    subst this
    exact ⟨0, 0, by rw [Nat.sub_self, Nat.min_zero], rfl,
      by rw [Nat.add_zero, Nat.sub_self, Nat.sub_eq_zero_of_le (Nat.le_add_right ..)], Nat.zero_min _, Nat.zero_min _,
      rfl, Nat.le_refl _, Nat.zero_min _⟩
  · have h0 : b ≤ L - q := by
      have := block_end hL (Nat.lt_of_le_of_ne hqL h)
      rw [Nat.div_mul_cancel (Nat.dvd_of_mod_eq_zero hq)] at this
      exact Nat.le_sub_of_add_le' (Nat.le_trans (Nat.add_le_add_left (Nat.le_of_lt hb) q) this)
    have h1 := pad16 (b + k)
    have h2 : q + (b + k + (16 - (b + k) % 16) % 16) ≤ L := by omega
    refine ⟨b, _, Nat.min_eq_left h0, rfl, rfl, Nat.min_eq_left hk, Nat.min_eq_left (Nat.le_sub_of_add_le' ?_), h1, h2,
      Nat.min_eq_left ?_⟩
    · rw [Nat.add_assoc q, Nat.add_assoc q]; exact h2
    · rw [Nat.add_assoc, Nat.add_sub_cancel_left]; exact Nat.le_add_right ..

/-- the common tail of `CBCFileIO.read`, positioned at the aligned offset `q` with the chaining block in hand, for a read
    at `q + b`: its three inner reads together return one aligned window of the ciphertext -/
theorem body_pure (r0 : AFile) (IV : Bytes) (n : Int) (c : Bytes) (q b : Nat) (fx cl : Bool)
    (hq : q % 16 = 0) (hb : b < 16) (hL : c.length % 16 = 0) (hIV : IV.length = 16) (hqL : q ≤ c.length) :
    CbcIO.read.body AFile.ops D ⟨r0, IV⟩ n ⟨c, q, fx, cl⟩ (q + b) b (if q = 0 then IV else slice c (q - 16) 16) =
      .ok (slice (plainCbc D IV c) (q + b) ((⟨c, q + b, fx, cl⟩ : AFile).readLen n),
           ⟨⟨c, q + b + (⟨c, q + b, fx, cl⟩ : AFile).readLen n, fx, cl⟩, IV⟩) := by
  have hkle := AFile.readLen_le ⟨c, q + b, fx, cl⟩ n
  generalize hk0 : (⟨c, q + b, fx, cl⟩ : AFile).readLen n = k at hkle ⊢
  obtain ⟨b₁, ka, g⟩ := cbc_geom c.length q b k hL hq hqL hb hkle
  have hk : (⟨c, q + b₁, fx, cl⟩ : AFile).readLen n = k := by
    rw [← hk0, AFile.readLen_eq, AFile.readLen_eq]; simp only [g.avail]
  unfold CbcIO.read.body
  rw [ops_read, AFile.read_natCast]
  simp only [g.before, bind, Except.bind, slice_length, Nat.min_eq_left (g.before ▸ Nat.min_le_right ..)]
  rw [ops_read, AFile.read_eq, hk]
  simp only [slice_length, g.data, padRead_eq, g.after]
  simp only [ops_read, AFile.read_natCast, g.pad, ops_tell, ops_seek, AFile.seek_cur]
  rw [slice_append_slice, Nat.add_assoc q b₁ k, slice_append_slice,
    cbc_window D IV c q (b₁ + k + ka) hq g.aligned g.inside hIV]
  simp only
  rw [← Int.natCast_add, ← Int.natCast_add, toNat_add_sub, pySlice_natCast, Nat.add_sub_cancel, slice_slice_clamp, g.cut]

/-- **C02 on the specification level**: `CBCFileIO.read` over an ordinary file, for every position (inside a block, at the end,
    past the end) and every size. -/
theorem cbc_read_pure (s : CbcIO AFile) (n : Int) (hL : s.reader.content.length % 16 = 0) (hIV : s.iv.length = 16) :
    CbcIO.read AFile.ops D s n =
      .ok (slice (plainCbc D s.iv s.reader.content) s.reader.pos (s.reader.readLen n),
           { s with reader := { s.reader with pos := s.reader.pos + s.reader.readLen n } }) := by
  obtain ⟨⟨c, pos, fx, cl⟩, iv⟩ := s
  obtain ⟨t, b, rfl, hb⟩ : ∃ t b, pos = 16 * t + b ∧ b < 16 :=
    ⟨pos / 16, pos % 16, (Nat.div_add_mod pos 16).symm, Nat.mod_lt _ (by decide)⟩
  have hm : (16 * t + b) % 16 = b := by rw [Nat.mul_add_mod, Nat.mod_eq_of_lt hb]
  simp only at hL hIV ⊢
  have hbody := body_pure D ⟨c, 16 * t + b, fx, cl⟩ iv n c (16 * t) b fx cl (Nat.mul_mod_right ..) hb hL hIV
  unfold CbcIO.read
  simp only [ops_tell, bind, Except.bind, hm, Nat.add_sub_cancel]
  by_cases h0 : 16 * t = 0
  · rw [if_pos h0] at hbody ⊢
    rw [ops_seek, AFile.seek_zero, ← h0]
    exact hbody (h0 ▸ Nat.zero_le _)
  · -- the code steps back to the block before the aligned position `16 * t` and reads it
    have h16t : 16 ≤ 16 * t := Nat.le_mul_of_pos_right 16 (Nat.pos_of_ne_zero fun h => h0 (by rw [h]))
    have e1 : ((16 * t + b : Nat) + (-16 - (b : Int))).toNat = 16 * t - 16 := by omega
    have e2 : 16 * t - 16 + 16 = 16 * t := Nat.sub_add_cancel h16t
    have hr : AFile.ops.read ⟨c, 16 * t - 16, fx, cl⟩ 16 = _ := congrArg Except.ok (AFile.read_natCast ⟨c, 16 * t - 16, fx, cl⟩ 16)
    rw [if_neg h0] at hbody ⊢
    rw [ops_seek, AFile.seek_cur]
    simp only [e1, hr]
    by_cases hfull : 16 * t ≤ c.length
    · have h16 : min 16 (c.length - (16 * t - 16)) = 16 := Nat.min_eq_left (Nat.le_sub_of_add_le' (e2.symm ▸ hfull))
      simp only [h16, slice_length, ne_eq, not_true_eq_false, if_false, e2]
      exact hbody hfull
    · -- positioned past the end of the data (a whole number of blocks): nothing is there; the code sees a short chaining
      -- block, returns nothing and seeks back
      have hz : c.length - (16 * t - 16) = 0 := Nat.sub_eq_zero_of_le (Nat.le_sub_of_add_le (by omega))
      have hr0 : (⟨c, 16 * t + b, fx, cl⟩ : AFile).readLen n = 0 :=
        AFile.readLen_past _ n (Nat.le_trans (Nat.le_of_not_le hfull) (Nat.le_add_right ..))
      simp only [hz, Nat.min_zero, slice_zero_len, List.length_nil, ne_eq, ops_seek, AFile.seek_cur, toNat_add_sub,
        hr0, Nat.add_zero]
      exact if_pos (by decide)

end

namespace CbcIO
variable {σ : Type} {F : FileOps σ} {inv : σ → Prop} {abs : σ → AFile} (D : Bytes → Bytes)

def CbcRel (inv : σ → Prop) (abs : σ → AFile) (v : Bytes × CbcIO σ) (v' : Bytes × CbcIO AFile) : Prop :=
  v.1 = v'.1 ∧ abs v.2.reader = v'.2.reader ∧ v.2.iv = v'.2.iv ∧ inv v.2.reader

theorem body_sim (hF : IsReadable F inv abs) (s : CbcIO σ) (n : Int) (r : σ) (hr : inv r)
    (offset before : Nat) (iv : Bytes) :
    SimG (CbcRel inv abs) (CbcIO.read.body F D s n r offset before iv)
      (CbcIO.read.body AFile.ops D ⟨abs s.reader, s.iv⟩ n (abs r) offset before iv) := by
  unfold CbcIO.read.body
  refine simG_bind_op (hF.sim_read r _ hr) fun db r3 h3 => ?_
  refine simG_bind_op (hF.sim_read r3 _ h3) fun dr r4 h4 => ?_
  refine simG_bind_op (inv := inv) (abs := abs) ?_ fun da r5 h5 => ?_
  · split
    · exact hF.sim_read r4 _ h4
    · exact simG_pure ⟨rfl, rfl, h4⟩
  refine simG_bind_op (hF.sim_tell r5 h5) fun cur r6 h6 => ?_
  refine simG_bind_op (hF.sim_seek r6 _ _ h6) fun _ r7 h7 => ?_
  cases cbcDecrypt D iv (db ++ dr ++ da) with
  | error e => exact rfl
  | ok plain => exact simG_pure ⟨rfl, rfl, rfl, h7⟩

theorem read_sim (hF : IsReadable F inv abs) (s : CbcIO σ) (n : Int) (hr : inv s.reader) :
    SimG (CbcRel inv abs) (CbcIO.read F D s n) (CbcIO.read AFile.ops D ⟨abs s.reader, s.iv⟩ n) := by
  unfold CbcIO.read
  refine simG_bind_op (hF.sim_tell _ hr) fun offset r0 h0 => ?_
  dsimp only
  by_cases hz : offset - offset % 16 = 0
  · rw [if_pos hz, if_pos hz]
    refine simG_bind_op (hF.sim_seek r0 _ _ h0) fun _ r1 h1 => ?_
    exact body_sim D hF s n r1 h1 _ _ _
  · rw [if_neg hz, if_neg hz]
    refine simG_bind_op (hF.sim_seek r0 _ _ h0) fun _ r1 h1 => ?_
    refine simG_bind_op (hF.sim_read r1 _ h1) fun iv r2 h2 => ?_
    by_cases hl : iv.length ≠ 16
    · rw [if_pos hl, if_pos hl]
      refine simG_bind_op (hF.sim_tell r2 h2) fun cur r3 h3 => ?_
      refine simG_bind_op (hF.sim_seek r3 _ _ h3) fun _ r4 h4 => ?_
      exact simG_pure ⟨rfl, rfl, rfl, h4⟩
    · rw [if_neg hl, if_neg hl]
      exact body_sim D hF s n r2 h2 _ _ _

/-- what the constructor is given and no operation changes: whole blocks of ciphertext and a 16-byte IV (`cbcDecrypt` raises
    on anything else) -/
def invCbc (inv : σ → Prop) (abs : σ → AFile) (s : CbcIO σ) : Prop :=
  inv s.reader ∧ (abs s.reader).content.length % 16 = 0 ∧ s.iv.length = 16

def absCbc (abs : σ → AFile) (s : CbcIO σ) : AFile :=
  { abs s.reader with content := plainCbc D s.iv (abs s.reader).content }

theorem absCbc_eq (s : CbcIO σ) : absCbc D abs s = (abs s.reader).mapContent (plainCbc D s.iv) := rfl

theorem read_refines (hF : IsReadable F inv abs) (s : CbcIO σ) (n : Int) (h : invCbc inv abs s) :
    ∃ s', CbcIO.read F D s n = .ok (((absCbc D abs s).read n).1, s') ∧
      abs s'.reader = ((abs s.reader).read n).2 ∧ s'.iv = s.iv ∧ inv s'.reader := by
  have hsim := read_sim D hF s n h.1
  rw [cbc_read_pure D ⟨abs s.reader, s.iv⟩ n h.2.1 h.2.2] at hsim
  obtain ⟨⟨b, s'⟩, e, h1, ha, hiv, hi⟩ := hsim
  simp only at h1 ha hiv hi
  rw [absCbc_eq, AFile.read_mapContent (plainCbc_length D s.iv)]
  exact ⟨s', by rw [e, h1], ha, hiv, hi⟩

theorem cbc_isReadable (hF : IsReadable F inv abs) :
    IsReadable (CbcIO.ops F D) (invCbc inv abs) (absCbc D abs) :=
  .of_sim (fun s n h => simG_opRel_ok.mpr (by
      obtain ⟨s', e, ha, hiv, hi⟩ := read_refines D hF s n h
      have ha' : absCbc D abs s' = ((absCbc D abs s).read n).2 := by
        rw [absCbc_eq, absCbc_eq, AFile.read_mapContent (plainCbc_length D s.iv), ha, hiv]
      exact ⟨s', e, ha', hi, by rw [ha]; exact h.2.1, hiv ▸ h.2.2⟩))
    (fun s off wh h => hF.sim_seek_through (plainCbc_length D s.iv) (fun r => { s with reader := r }) _ off wh h.1
      fun _ hi hc => ⟨rfl, hi, by rw [hc]; exact h.2.1, h.2.2⟩)
    (fun s h => hF.sim_tell_through (fun r => { s with reader := r }) _ h.1 fun _ hi ha =>
      ⟨rfl, hi, by rw [ha]; exact h.2.1, h.2.2⟩)

theorem cbc_isReadOnly (hF : IsReadable F inv abs) :
    IsReadOnly (CbcIO.ops F D) (invCbc inv abs) (absCbc D abs) where
  toIsReadable := cbc_isReadable D hF
  write _ _ _ := Or.inl ⟨_, rfl⟩

end CbcIO
end Pyctr
