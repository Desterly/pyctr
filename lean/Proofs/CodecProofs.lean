/-
  C20: the SMDH icon — the address map of the decoder in binary digits (`ofBits`: a pixel index is a tile number above six
  digits, the low three digits of both coordinates interleaved; `tileIndex` and `mortonSpec` build that form, `untile` takes it
  apart), then the tiler of the specification side against `loadTiled`; SMDH title fields (UTF-16 code units, NUL padding); the
  seed database (fixed-size entries read back one by one).
-/
import PyctrModel.Fmt.Codecs
import Proofs.BytesLemmas
namespace Pyctr

namespace Smdh

theorem mortonSpec_bits (a b c d e f : Bool) (A B w : Nat) :
    mortonSpec (ofBits [a, c, e] A) (ofBits [b, d, f] B) w = ofBits [a, b, c, d, e, f] (B * (w / 8) + A) := by
  rw [mortonSpec, ofBits_shift _ A 3, ofBits_shift _ B 3, ofBits_mod_two, ofBits_mod_two, ofBits_div _ A 1, ofBits_div _ A 2,
    ofBits_div _ B 1, ofBits_div _ B 2]
  simp only [ofBits, List.getD_cons_zero, List.getD_cons_succ]
  simp +arith only

theorem untile_bits (a b c d e f : Bool) (t w : Nat) :
    untile (ofBits [a, b, c, d, e, f] t) w = (ofBits [a, c, e] (t % (w / 8)), ofBits [b, d, f] (t / (w / 8))) := by
  simp only [untile]
  rw [ofBits_shift _ t 6, ofBits_mod _ t 6, ofBits_mod_two, ofBits_div _ 0 1, ofBits_div _ 0 2, ofBits_div _ 0 3,
    ofBits_div _ 0 4, ofBits_div _ 0 5]
  simp only [ofBits, List.getD_cons_zero, List.getD_cons_succ]
  refine Prod.ext ?_ ?_ <;> simp +arith only

theorem coord_bits (x : Nat) : ∃ a c e A, x = ofBits [a, c, e] A := by
  obtain ⟨l, A, hl, rfl⟩ := exists_ofBits 3 x
  match l, hl with
  | [a, c, e], _ => exact ⟨a, c, e, A, rfl⟩

theorem index_bits (i : Nat) : ∃ a b c d e f t, i = ofBits [a, b, c, d, e, f] t := by
  obtain ⟨l, t, hl, rfl⟩ := exists_ofBits 6 i
  match l, hl with
  | [a, b, c, d, e, f], _ => exact ⟨a, b, c, d, e, f, t, rfl⟩

theorem untile_mortonSpec (x y w : Nat) (h : x / 8 < w / 8) : untile (mortonSpec x y w) w = (x, y) := by
  obtain ⟨a, c, e, A, rfl⟩ := coord_bits x
  obtain ⟨b, d, f, B, rfl⟩ := coord_bits y
  rw [ofBits_shift _ A 3] at h
  rw [mortonSpec_bits, untile_bits, Nat.mul_add_mod_self_right, Nat.mod_eq_of_lt h,
    Nat.add_comm (_ * _), Nat.add_mul_div_right _ _ (by omega), Nat.div_eq_of_lt h, Nat.zero_add]

theorem mortonSpec_untile (i w : Nat) : mortonSpec (untile i w).1 (untile i w).2 w = i := by
  obtain ⟨a, b, c, d, e, f, t, rfl⟩ := index_bits i
  rw [untile_bits, mortonSpec_bits, Nat.div_add_mod']

theorem tileIndex_bits (a b c d e f : Bool) (A B w : Nat) :
    tileIndex (ofBits [a, c, e] A) (ofBits [b, d, f] B) w = ofBits [a, b, c, d, e, f] (B * (w / 8) + A) := by
  simp only [tileIndex, Nat.shiftRight_eq_div_pow, ofBits_shift [a, c, e] A 3, ofBits_shift [b, d, f] B 3, Nat.and_one_is_mod,
    and_two_pow _ 1, and_two_pow _ 2, ofBits_mod_two, ofBits_div [a, c, e] A 1, ofBits_div [a, c, e] A 2, ofBits_div [b, d, f] B 1,
    ofBits_div [b, d, f] B 2, List.getD_cons_zero, List.getD_cons_succ, Nat.shiftLeft_eq, Nat.reducePow, Nat.mul_assoc, Nat.reduceMul]
  -- each digit is or-ed in above what is there already
  have h1 : a.toNat < 2 ^ 1 := a.toNat_lt
  have h2 := add_bit_lt 1 _ b h1
  have h3 := add_bit_lt 2 _ c h2
  have h4 := add_bit_lt 3 _ d h3
  have h5 := add_bit_lt 4 _ e h4
  rw [or_bit 1 _ _ h1, or_bit 2 _ _ h2, or_bit 3 _ _ h3, or_bit 4 _ _ h4, or_bit 5 _ _ h5]
  simp only [ofBits]
  simp +arith only

theorem tileIndex_eq (x y w : Nat) : tileIndex x y w = mortonSpec x y w := by
  obtain ⟨a, c, e, A, rfl⟩ := coord_bits x
  obtain ⟨b, d, f, B, rfl⟩ := coord_bits y
  rw [tileIndex_bits, mortonSpec_bits]

theorem untile_lt (i W H : Nat) (hi : i < 8 * W * (8 * H)) : (untile i (8 * W)).1 < 8 * W ∧ (untile i (8 * W)).2 < 8 * H := by
  obtain ⟨a, b, c, d, e, f, t, rfl⟩ := index_bits i
  have ht : t < W * H := by
    rw [Nat.mul_mul_mul_comm] at hi
    rw [← ofBits_shift [a, b, c, d, e, f] t 6]; exact Nat.div_lt_of_lt_mul hi
  have hW : 0 < W := Nat.pos_of_ne_zero (by rintro rfl; simp at ht)
  rw [untile_bits, Nat.mul_div_cancel_left _ (by decide : 0 < 8)]
  -- three digits above a tile coordinate stay below eight times the next coordinate
  exact ⟨Nat.lt_of_lt_of_le (ofBits_lt _ _ 3) (Nat.mul_le_mul_left 8 (Nat.mod_lt t hW)),
    Nat.lt_of_lt_of_le (ofBits_lt _ _ 3) (Nat.mul_le_mul_left 8 (Nat.div_lt_of_lt_mul ht))⟩

theorem mortonSpec_lt (x y w h : Nat) (hw : w % 8 = 0) (hh : h % 8 = 0) (hx : x < w) (hy : y < h) :
    mortonSpec x y w < w * h := by
  obtain ⟨W, rfl⟩ : ∃ W, w = 8 * W := ⟨w / 8, (Nat.mul_div_cancel' (Nat.dvd_of_mod_eq_zero hw)).symm⟩
  obtain ⟨H, rfl⟩ : ∃ H, h = 8 * H := ⟨h / 8, (Nat.mul_div_cancel' (Nat.dvd_of_mod_eq_zero hh)).symm⟩
  obtain ⟨a, c, e, A, rfl⟩ := coord_bits x
  obtain ⟨b, d, f, B, rfl⟩ := coord_bits y
  have hA : A < W := by rw [← ofBits_shift [a, c, e] A 3]; exact Nat.div_lt_of_lt_mul hx
  have hB : B < H := by rw [← ofBits_shift [b, d, f] B 3]; exact Nat.div_lt_of_lt_mul hy
  -- the tile number is below `H * W`, six digits above it below `64 * (H * W)`
  have ht : B * W + A + 1 ≤ H * W := Nat.le_trans (Nat.add_le_add_left hA _) (Nat.succ_mul B W ▸ Nat.mul_le_mul_right W hB)
  rw [mortonSpec_bits, Nat.mul_div_cancel_left _ (by decide : 0 < 8), Nat.mul_mul_mul_comm, Nat.mul_comm W H]
  exact Nat.lt_of_lt_of_le (ofBits_lt _ _ 6) (Nat.mul_le_mul_left _ ht)

theorem tile_untile_24 : ∀ i, i < 24 * 24 → tileIndex (untile i 24).1 (untile i 24).2 24 = i ∧ (untile i 24).1 < 24 ∧ (untile i 24).2 < 24 :=
  fun i hi => ⟨by rw [tileIndex_eq, mortonSpec_untile], untile_lt i 3 3 hi⟩
theorem tile_untile_48 : ∀ i, i < 48 * 48 → tileIndex (untile i 48).1 (untile i 48).2 48 = i ∧ (untile i 48).1 < 48 ∧ (untile i 48).2 < 48 :=
  fun i hi => ⟨by rw [tileIndex_eq, mortonSpec_untile], untile_lt i 6 6 hi⟩

/-- an expanded channel is a byte -/
theorem expand_lt (c m : Nat) (h : c ≤ m) : c * 255 / m < 256 :=
  Nat.lt_succ_of_le (Nat.div_le_of_le_mul (Nat.mul_le_mul_right 255 h))

/-- the expansion is injective on each channel: re-quantising gives the field back -/
theorem expand5_inv : ∀ c, c < 32 → (c * 255 / 31 * 31 + 127) / 255 = c := by decide +kernel
theorem expand6_inv : ∀ c, c < 64 → (c * 255 / 63 * 63 + 127) / 255 = c := by decide +kernel

theorem tileImage_length (pix : Nat → Nat → Nat) (w h : Nat) : (tileImage pix w h).length = w * h * 2 := by
  rw [tileImage, length_flatMap_const _ 2 _ (fun _ _ => toLE_length 2 _), List.length_range, Nat.mul_comm]

theorem tileImage_block (pix : Nat → Nat → Nat) (w h idx : Nat) (hi : idx < w * h) :
    slice (tileImage pix w h) (idx * 2) 2 = toLE 2 (pix (untile idx w).2 (untile idx w).1) := by
  have := slice_flatMap_const (fun idx => toLE 2 (pix (untile idx w).2 (untile idx w).1)) 2 (List.range (w * h)) []
    (fun _ _ => toLE_length 2 _) idx (by simpa using hi)
  rwa [List.append_nil, List.getElem_range, Nat.mul_comm 2] at this

theorem pixel_roundtrip (pix : Nat → Nat → Nat) (w h : Nat) (hw : w % 8 = 0) (hh : h % 8 = 0) (hpix : ∀ y x, pix y x < 65536)
    (x y : Nat) (hx : x < w) (hy : y < h) : readLE (slice (tileImage pix w h) (tileIndex x y w * 2) 2) = pix y x := by
  rw [tileIndex_eq, tileImage_block pix w h _ (mortonSpec_lt x y w h hw hh hx hy), untile_mortonSpec x y w (by omega)]
  exact readLE_toLE 2 _ (hpix y x)

theorem loadTiled_tileImage (pix : Nat → Nat → Nat) (w h : Nat) (hw : w % 8 = 0) (hh : h % 8 = 0) (hpix : ∀ y x, pix y x < 65536) :
    loadTiled (tileImage pix w h) w h = (List.range h).map fun y => (List.range w).map fun x => rgb565 (pix y x) := by
  apply List.map_congr_left
  intro y hy
  apply List.map_congr_left
  intro x hx
  have hx := List.mem_range.mp hx
  have hy := List.mem_range.mp hy
  -- the decoder's bytes per pixel, `len(data) // width // height`: two
  have hpx : (tileImage pix w h).length / w / h = 2 := by
    rw [tileImage_length, Nat.mul_assoc, Nat.mul_div_cancel_left _ (by omega), Nat.mul_div_cancel_left _ (by omega)]
  simp only [hpx, pixel_roundtrip pix w h hw hh hpix x y hx hy]

theorem unitsOfBytes_bytesOfUnits (u : U16s) (h : ∀ x, x ∈ u → x < 65536) : unitsOfBytes (bytesOfUnits u) = u := by
  induction u with
  | nil => rfl
  | cons x xs ih =>
    have hx := h x (by simp)
    simp only [bytesOfUnits, unitsOfBytes]
    rw [ih (fun y hy => h y (by simp [hy])), toNat_ofNat_pair x hx]

theorem bytesOfUnits_length (u : U16s) : (bytesOfUnits u).length = 2 * u.length := by
  induction u with
  | nil => rfl
  | cons x xs ih => simp only [bytesOfUnits, List.length_cons, ih]; omega

theorem unitsOfBytes_append : ∀ (n : Nat) (a b : Bytes), a.length = 2 * n → unitsOfBytes (a ++ b) = unitsOfBytes a ++ unitsOfBytes b := by
  intro n
  induction n with
  | zero => intro a b h; have : a = [] := List.eq_nil_of_length_eq_zero (by omega); subst this; rfl
  | succ n ih =>
    intro a b h
    match a, h with
    | x :: y :: rest, h =>
      simp only [List.cons_append, unitsOfBytes, List.cons.injEq, true_and]
      exact ih rest b (by simp only [List.length_cons] at h; omega)

theorem unitsOfBytes_zeros (k : Nat) : unitsOfBytes (zeros (2 * k)) = List.replicate k 0 := by
  induction k with
  | zero => rfl
  | succ k ih =>
    have : zeros (2 * (k + 1)) = 0 :: 0 :: zeros (2 * k) := by
      simp only [zeros]; rw [show 2 * (k + 1) = 2 * k + 1 + 1 by omega, List.replicate_succ, List.replicate_succ]
    rw [this]
    simp only [unitsOfBytes, ih, List.replicate_succ]
    rfl

theorem stripZeros_padded (u : U16s) (k : Nat) (hhead : u.head? ≠ some 0) (hlast : u.getLast? ≠ some 0) :
    stripZeros (u ++ List.replicate k 0) = u := by
  unfold stripZeros
  cases u with
  | nil =>
    have : (List.replicate k 0).dropWhile (· == 0) = [] := by
      induction k with
      | zero => rfl
      | succ k ih => simp [List.replicate_succ, ih]
    rw [List.nil_append, this]; rfl
  | cons x xs =>
    rw [List.cons_append, List.dropWhile_cons, if_neg (by simpa using hhead)]
    exact rstrip_append_replicate 0 (x :: xs) k (fun b hb hz => hlast (hz ▸ hb))

theorem validUtf16_zeros (k : Nat) : validUtf16 (List.replicate k 0) = true := by
  induction k with
  | zero => rfl
  | succ k ih =>
    rw [List.replicate_succ, validUtf16.eq_def]
    simp only
    rw [if_neg (by omega), if_neg (by omega)]; exact ih

theorem validUtf16_append_zeros (u : U16s) (k : Nat) (hv : validUtf16 u = true) : validUtf16 (u ++ List.replicate k 0) = true := by
  fun_induction validUtf16 u with
  | case1 => exact validUtf16_zeros k
  -- a high surrogate followed by a low one
  | case2 u h v rest ih =>
    rw [List.cons_append, List.cons_append, validUtf16, if_pos h]
    simp only [Bool.and_eq_true] at hv ⊢
    exact ⟨hv.1, ih hv.2⟩
  -- a high surrogate at the end, a low one first: not valid
  | case3 | case4 => cases hv
  | case5 u rest h1 h2 ih => rw [List.cons_append, validUtf16.eq_def]; simp only [if_neg h1, if_neg h2]; exact ih hv

theorem unitsOfBytes_ljust (u : U16s) (w : Nat) (hfit : 2 * u.length ≤ w) (hu : ∀ x, x ∈ u → x < 65536) :
    unitsOfBytes (ljust (bytesOfUnits u) w) = u ++ List.replicate ((w - 2 * u.length) / 2) 0 := by
  rw [ljust, unitsOfBytes_append u.length _ _ (bytesOfUnits_length u), unitsOfBytes_bytesOfUnits u hu, bytesOfUnits_length]
  congr 1
  -- an odd byte left over at the end is no code unit
  obtain ⟨k, hk | hk⟩ : ∃ k, w - 2 * u.length = 2 * k ∨ w - 2 * u.length = 2 * k + 1 := ⟨(w - 2 * u.length) / 2, by omega⟩
  · rw [hk, Nat.mul_div_cancel_left _ (by omega)]; exact unitsOfBytes_zeros k
  · rw [hk, show (2 * k + 1) / 2 = k by omega, List.replicate_succ', ← zeros,
      unitsOfBytes_append k _ _ (zeros_length _), unitsOfBytes_zeros]
    exact List.append_nil _

/-- a title field as the property quantifies over it -/
structure GoodField (u : U16s) (width : Nat) : Prop where
  fit : 2 * u.length ≤ width
  units : ∀ x, x ∈ u → x < 65536
  valid : validUtf16 u = true
  head : u.head? ≠ some 0
  last : u.getLast? ≠ some 0

theorem fieldToBytes_length (u : U16s) (width : Nat) (h : 2 * u.length ≤ width) : (fieldToBytes u width).length = width :=
  ljust_length _ _ _ (by rw [bytesOfUnits_length]; exact h)

theorem field_roundtrip (u : U16s) (width : Nat) (hw : width % 2 = 0) (g : GoodField u width) :
    fieldOfBytes (fieldToBytes u width) = .ok u := by
  rw [fieldOfBytes, fieldToBytes_length u width g.fit, fieldToBytes, unitsOfBytes_ljust u width g.fit g.units,
    validUtf16_append_zeros u _ g.valid, if_neg (by simp [hw]), stripZeros_padded u _ g.head g.last]
end Smdh

namespace SeedDb

/-- a database as `save_seeddb` can write it and `load_seeddb` reads it back -/
structure WF (db : List (Nat × Bytes)) : Prop where
  ids : ∀ p, p ∈ db → p.1 < 2 ^ 64
  seeds : ∀ p, p ∈ db → p.2.length = 16
  distinct : (db.map (·.1)).Nodup
  count : db.length < 2 ^ 32

/-- the 0x20-byte entry `save_seeddb` writes -/
def entryBytes (p : Nat × Bytes) : Bytes := toLE 8 p.1 ++ p.2 ++ zeros 8

theorem entryBytes_length (p : Nat × Bytes) (h : p.2.length = 16) : (entryBytes p).length = 0x20 := by
  simp [entryBytes, h]

theorem save_eq (db : List (Nat × Bytes)) (h : WF db) :
    save db = some (toLE 4 db.length ++ zeros 12 ++ db.flatMap entryBytes) := by
  unfold save
  rw [if_neg]
  · rfl
  · intro hc
    rcases hc with hc | hc
    · have := h.count; omega
    · rw [List.any_eq_true] at hc
      obtain ⟨p, hp, hge⟩ := hc
      have := h.ids p hp
      simp at hge; omega

theorem loadEntries_save (db : List (Nat × Bytes)) (h : WF db) :
    loadEntries (toLE 4 db.length ++ zeros 12 ++ db.flatMap entryBytes) = some db := by
  have hel : ∀ p ∈ db, (entryBytes p).length = 0x20 := fun p hp => entryBytes_length p (h.seeds p hp)
  have hcount : slice (toLE 4 db.length ++ zeros 12 ++ db.flatMap entryBytes) 0 4 = toLE 4 db.length := by
    rw [List.append_assoc]; exact slice_prefix (toLE 4 db.length) _
  simp only [loadEntries, hcount, readLE_toLE 4 _ (show db.length < 256 ^ 4 from h.count), List.length_append, toLE_length,
    zeros_length, length_flatMap_const _ _ _ hel]
  rw [if_pos (by omega)]
  congr 1
  apply List.ext_getElem (by simp)
  intro i h1 h2
  have hi : i < db.length := by simpa using h1
  have hraw : rawEntry (toLE 4 db.length ++ zeros 12 ++ db.flatMap entryBytes) i = entryBytes db[i] := by
    rw [rawEntry, slice_append_right' _ _ _ (0x20 * i) _ (by simp), ← List.append_nil (List.flatMap _ _)]
    exact slice_flatMap_const entryBytes 0x20 db [] hel i hi
  have L : Laid (entryBytes db[i]) 0 [toLE 8 db[i].1, db[i].2, zeros 8] := .of_flatten (by simp [entryBytes])
  simp only [Laid, toLE_length, h.seeds _ (List.getElem_mem hi), Nat.zero_add] at L
  simp only [List.getElem_map, List.getElem_range, hraw, L.1, L.2.1,
    readLE_toLE 8 _ (show db[i].1 < 256 ^ 8 from h.ids _ (List.getElem_mem hi))]

theorem dictSet_fresh (l : List (Nat × Bytes)) (k : Nat) (v : Bytes) (h : ∀ x ∈ l, x.1 ≠ k) : dictSet l k v = l ++ [(k, v)] :=
  if_neg fun hany => let ⟨x, hx, hk⟩ := List.any_eq_true.mp hany; h x hx (eq_of_beq hk)

theorem foldl_dictSet (l acc : List (Nat × Bytes)) (h : (acc ++ l).Pairwise (fun a b => a.1 ≠ b.1)) :
    l.foldl (fun d (p : Nat × Bytes) => dictSet d p.1 p.2) acc = acc ++ l := by
  induction l generalizing acc with
  | nil => exact (List.append_nil acc).symm
  | cons e l ih =>
    rw [List.foldl_cons, dictSet_fresh acc e.1 e.2 fun x hx => (List.pairwise_append.mp h).2.2 x hx e List.mem_cons_self,
      ih (acc ++ [e]) (by rwa [List.append_assoc]), List.append_assoc, List.singleton_append]
end SeedDb

end Pyctr
