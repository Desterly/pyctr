/-
  Container level: an opened container has sound caches; reads, seeks and block queries in any order keep them sound and never
  touch the file (`reachRO_ok`).
-/
import Proofs.SaveCache
import Proofs.SaveOpen
namespace Pyctr
namespace Save
variable (H : Bytes → Bytes)

theorem cacheOK_empty (rd : Nat → Nat → Nat → Except Err Bytes) (bsOf : Nat → Nat) (master : List Bytes) :
    CacheOK H rd bsOf master Caches.empty := by
  intro deep idx block v hi hm
  have he : Caches.empty.get deep idx = [] := by
    match idx, hi with
    | 0, _ | 1, _ | 2, _ | 3, _ => cases deep <;> rfl
  rw [he] at hm
  cases hm

theorem openCont_parts (kind : Kind) (F : Bytes) (w : Bool) (c : Cont) (h : openCont H kind F w = .ok c) :
    c.F = F ∧ ∀ p ∈ c.parts, ∃ i o pd po ps, loadPartition F i o pd po ps = .ok p := by
  obtain ⟨-, -, ps, hps, rfl⟩ := (openCont_ok_iff H kind F w c rfl rfl).mp h
  obtain ⟨hl, hall⟩ := loadParts_inv _ _ _ _ _ hps
  refine ⟨rfl, fun p hp => ?_⟩
  obtain ⟨i, hi⟩ := List.mem_iff_getElem?.mp hp
  have hlt := (List.getElem?_eq_some_iff.mp hi).1
  exact ⟨_, _, _, _, _, hall i _ p (List.getElem?_eq_getElem (by rw [← hl]; exact hlt)) hi⟩

theorem openCont_ok (kind : Kind) (F : Bytes) (w : Bool) (c : Cont) (h : openCont H kind F w = .ok c) : ContOK H c := by
  intro p hp
  obtain ⟨_, hparts⟩ := openCont_parts H kind F w c h
  obtain ⟨i, o, pd, po, ps, hl⟩ := hparts p hp
  obtain ⟨d, -, rfl⟩ := loadPartition_inv _ _ _ _ _ _ _ hl
  exact cacheOK_empty H _ _ _

theorem ContOK.set {c : Cont} (hc : ContOK H c) (pi : Nat) (q : PartSt)
    (hq : CacheOK H (levelRead (q.P c.F) q.tree) q.bsOf q.master q.caches) :
    ContOK H { c with parts := c.parts.set pi q } := by
  intro p hp
  rcases List.mem_or_eq_of_mem_set hp with hp | rfl
  · exact hc p hp
  · exact hq

theorem contRead_inv (c : Cont) (pi : Nat) (size : Int) (d : Bytes) (c' : Cont) (h : contRead H c pi size = .ok (d, c')) :
    ∃ p ca, c.parts[pi]? = some p ∧
      lv4Read H (slice c.F p.pOff p.pSize) p.tree p.master p.seek size p.caches = .ok (d, ca) ∧
      c' = { c with parts := c.parts.set pi { p with caches := ca, seek := p.seek + d.length } } := by
  revert h
  fun_cases contRead H c pi size
  case case3 p hp out ca hr =>
    intro h
    obtain ⟨rfl, rfl⟩ := Prod.mk.inj (Except.ok.inj h)
    exact ⟨p, ca, hp, hr, rfl⟩
  all_goals exact fun h => nomatch h

theorem contSeek_inv (c : Cont) (pi : Nat) (off : Int) (wh n : Nat) (c' : Cont) (h : contSeek c pi off wh = .ok (n, c')) :
    ∃ p, c.parts[pi]? = some p ∧ c' = { c with parts := c.parts.set pi { p with seek := n } } := by
  revert h
  fun_cases contSeek c pi off wh
  case case3 p hp _ _ s _ =>
    intro h
    obtain ⟨rfl, rfl⟩ := Prod.mk.inj (Except.ok.inj h)
    exact ⟨p, hp, rfl⟩
  all_goals exact fun h => nomatch h

theorem contRead_spec (c : Cont) (hc : ContOK H c) (pi : Nat) (size : Int) (d : Bytes) (c' : Cont)
    (h : contRead H c pi size = .ok (d, c')) :
    c'.F = c.F ∧ ContOK H c' ∧ ∃ p, c.parts[pi]? = some p ∧
      (TreeWF (p.P c.F) p.tree →
        d = slice (verifiedView H (levelBytes (p.P c.F) p.tree) p.bsOf p.master) p.seek
              (readCount p.ivfc.lv4.size p.seek size)) := by
  obtain ⟨p, ca, hp, hr, rfl⟩ := contRead_inv H c pi size d c' h
  obtain ⟨hk, hv⟩ := lv4ReadG_spec H _ _ _ _ _ _ _ (hc p (List.mem_of_getElem? hp)) _ _ hr
  exact ⟨rfl, ContOK.set H hc pi _ hk, p, hp, fun hwf =>
    hv _ (levelRead_eq _ _ hwf) (levelBytes_length _ _ hwf 3).symm (Nat.two_pow_pos _)⟩

theorem getBlockG_noverify (rd : Nat → Nat → Nat → Except Err Bytes) (bsOf : Nat → Nat) (master : List Bytes)
    (idx block : Nat) (deep : Bool) (c : Caches) (d : Bytes) (v : Option Bool) (c' : Caches)
    (h : getBlockG H rd bsOf master idx block false deep c = .ok (d, v, c')) : c' = c ∧ v = none := by
  -- the two equations of `getBlockG` (level 1, levels 2-4) open alike: read the block and, without verification, return it
  cases idx
  all_goals
    rw [getBlockG] at h
    split at h
    · cases h
    · simp only [Bool.not_false, if_true, Except.ok.injEq, Prod.mk.injEq] at h
      exact ⟨h.2.2.symm, h.2.1.symm⟩

theorem contBlock_spec (c : Cont) (hc : ContOK H c) (pi level block : Nat) (verify deepV : Bool) (d : Bytes)
    (v : Option Bool) (c' : Cont) (h : contBlock H c pi level block verify deepV = .ok ((d, v), c')) :
    c'.F = c.F ∧ ContOK H c' ∧ ∃ p, c.parts[pi]? = some p ∧
      (verify = true → specValid H (levelRead (p.P c.F) p.tree) p.bsOf p.master deepV (level - 1) block = .ok v) := by
  revert h
  fun_cases contBlock H c pi level block verify deepV
  -- the partition exists, `1 ≤ level ≤ 4`, and `get_block` succeeds
  case case4 p hp hl out w caches hr =>
    intro h
    obtain ⟨⟨rfl, rfl⟩, rfl⟩ : (out = d ∧ w = v) ∧ _ = c' := by simpa using h
    have hcp := hc p (List.mem_of_getElem? hp)
    cases verify with
    | true =>
      obtain ⟨_, hs, hk⟩ := getBlockG_sound H _ _ _ (level - 1) (by omega) block deepV p.caches hcp _ _ _ hr
      exact ⟨rfl, ContOK.set H hc pi _ hk, p, hp, fun _ => hs⟩
    | false =>
      obtain ⟨rfl, _⟩ := getBlockG_noverify H _ _ _ _ _ _ _ _ _ _ hr
      exact ⟨rfl, ContOK.set H hc pi _ hcp, p, hp, fun hh => by cases hh⟩
  all_goals exact fun h => nomatch h

theorem contSeek_spec (c : Cont) (hc : ContOK H c) (pi : Nat) (off : Int) (wh : Nat) (n : Nat) (c' : Cont)
    (h : contSeek c pi off wh = .ok (n, c')) : c'.F = c.F ∧ ContOK H c' := by
  obtain ⟨p, hp, rfl⟩ := contSeek_inv c pi off wh n c' h
  exact ⟨rfl, ContOK.set H hc pi _ (hc p (List.mem_of_getElem? hp))⟩

theorem reachRO_ok (c0 c : Cont) (h0 : ContOK H c0) (h : ReachRO H c0 c) : c.F = c0.F ∧ ContOK H c := by
  induction h with
  | refl => exact ⟨rfl, h0⟩
  | read pi n d _ hr ih =>
    obtain ⟨hf, hk, _⟩ := contRead_spec H _ ih.2 pi n d _ hr
    exact ⟨hf.trans ih.1, hk⟩
  | seek pi off wh n _ hr ih =>
    obtain ⟨hf, hk⟩ := contSeek_spec H _ ih.2 pi off wh n _ hr
    exact ⟨hf.trans ih.1, hk⟩
  | blk pi level block vf dv r _ hr ih =>
    obtain ⟨d, v⟩ := r
    obtain ⟨hf, hk, _⟩ := contBlock_spec H _ ih.2 pi level block vf dv d v _ hr
    exact ⟨hf.trans ih.1, hk⟩

end Save
end Pyctr
