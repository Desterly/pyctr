/-
  The tools of every refinement proof.  `IsReadable` states each operation by itself, `seek` once per outcome; `SimG (OpRel inv abs)`
  says the same as one relation between the two results, which composes under `>>=`, so a wrapper that calls its inner file several
  times is followed call by call.  Then: refinement of single calls lifted to histories, and `io.BytesIO`, the bottom of every stack.
-/
import PyctrModel.Base.Run
import PyctrModel.Base.PyFile
import Proofs.AFileLemmas
namespace Pyctr

/-- `x` (implementation side) simulates `y` (specification side) up to the relation `Q` on results;
    errors are reproduced exactly. -/
def SimG {β β' : Type} (Q : β → β' → Prop) (x : Except Err β) (y : Except Err β') : Prop :=
  match y with
  | .ok v' => ∃ v, x = .ok v ∧ Q v v'
  | .error e => x = .error e

theorem simG_pure {β β' : Type} {Q : β → β' → Prop} {v : β} {v' : β'} (h : Q v v') :
    SimG Q (Except.ok v : Except Err β) (Except.ok v') := ⟨v, rfl, h⟩

theorem ops_tell (a : AFile) : AFile.ops.tell a = .ok (a.pos, a) := rfl
theorem ops_read (a : AFile) (n : Int) : AFile.ops.read a n = .ok (a.read n) := rfl
theorem ops_seek (a : AFile) (off wh : Int) : AFile.ops.seek a off wh = a.seek off wh := rfl

section
variable {σ : Type} {F : FileOps σ} {inv : σ → Prop} {abs : σ → AFile}

def OpRel (inv : σ → Prop) (abs : σ → AFile) {α : Type} (v : α × σ) (v' : α × AFile) : Prop :=
  v.1 = v'.1 ∧ abs v.2 = v'.2 ∧ inv v.2

theorem simG_opRel_ok {α : Type} {x : Except Err (α × σ)} {v : α} {a : AFile} :
    SimG (OpRel inv abs) x (.ok (v, a)) ↔ ∃ s', x = .ok (v, s') ∧ abs s' = a ∧ inv s' := by
  constructor
  · rintro ⟨⟨_, s'⟩, e, rfl, h⟩; exact ⟨s', e, h⟩
  · rintro ⟨s', e, h⟩; exact ⟨(v, s'), e, rfl, h⟩

theorem simG_bind_op {α γ γ' : Type} {Q : γ → γ' → Prop} {x : Except Err (α × σ)} {y : Except Err (α × AFile)}
    {f : α × σ → Except Err γ} {g : α × AFile → Except Err γ'}
    (h1 : SimG (OpRel inv abs) x y) (h2 : ∀ v r, inv r → SimG Q (f (v, r)) (g (v, abs r))) :
    SimG Q (x >>= f) (y >>= g) := by
  cases y with
  | error e => rw [show x = .error e from h1]; rfl
  | ok v' =>
    obtain ⟨v', a⟩ := v'
    obtain ⟨⟨v, r⟩, rfl, rfl, rfl, hi⟩ := h1
    exact h2 v r hi

theorem IsReadable.of_sim
    (read : ∀ s n, inv s → SimG (OpRel inv abs) (F.read s n) (AFile.ops.read (abs s) n))
    (seek : ∀ s off wh, inv s → SimG (OpRel inv abs) (F.seek s off wh) (AFile.ops.seek (abs s) off wh))
    (tell : ∀ s, inv s → SimG (OpRel inv abs) (F.tell s) (AFile.ops.tell (abs s))) :
    IsReadable F inv abs where
  read s n h := simG_opRel_ok.mp (read s n h)
  seek_err s off wh e h he := by
    have := seek s off wh h
    simp only [ops_seek, he] at this; exact this
  seek_ok s off wh p a' h he := by
    have := seek s off wh h
    simp only [ops_seek, he] at this
    exact simG_opRel_ok.mp this
  tell s h := simG_opRel_ok.mp (tell s h)

theorem sim_seekPos (s : σ) (upd : Nat → σ) (off wh : Int)
    (h : ∀ p, abs (upd p) = { abs s with pos := p } ∧ inv (upd p)) :
    SimG (OpRel inv abs)
      ((AFile.seekPos (abs s).content.length (abs s).pos (abs s).clamp off wh).map fun p => (p, upd p))
      (AFile.ops.seek (abs s) off wh) := by
  simp only [ops_seek, AFile.seek_eq]
  cases AFile.seekPos (abs s).content.length (abs s).pos (abs s).clamp off wh with
  | error e => rfl
  | ok p => exact ⟨_, rfl, rfl, h p⟩

section
variable (hF : IsReadable F inv abs)
include hF

theorem IsReadable.sim_read (r : σ) (n : Int) (hr : inv r) :
    SimG (OpRel inv abs) (F.read r n) (AFile.ops.read (abs r) n) := simG_opRel_ok.mpr (hF.read r n hr)

theorem IsReadable.sim_tell (r : σ) (hr : inv r) :
    SimG (OpRel inv abs) (F.tell r) (AFile.ops.tell (abs r)) := simG_opRel_ok.mpr (hF.tell r hr)

theorem IsReadable.sim_seek (r : σ) (off wh : Int) (hr : inv r) :
    SimG (OpRel inv abs) (F.seek r off wh) (AFile.ops.seek (abs r) off wh) := by
  cases hs : (abs r).seek off wh with
  | error e => simp only [SimG, ops_seek, hs]; exact hF.seek_err r off wh e hr hs
  | ok v => simp only [ops_seek, hs]; exact simG_opRel_ok.mpr (hF.seek_ok r off wh v.1 v.2 hr hs)

theorem IsReadable.sim_seek_through {τ : Type} {invW : τ → Prop} {absW : τ → AFile} {g : Bytes → Bytes}
    (hg : ∀ c, (g c).length = c.length) (k : σ → τ) (r : σ) (off wh : Int) (hr : inv r)
    (hk : ∀ r', inv r' → (abs r').content = (abs r).content → absW (k r') = (abs r').mapContent g ∧ invW (k r')) :
    SimG (OpRel invW absW) (F.seek r off wh >>= fun x => .ok (x.1, k x.2))
      (AFile.ops.seek ((abs r).mapContent g) off wh) := by
  simp only [ops_seek, AFile.seek_mapContent hg]
  cases hs : (abs r).seek off wh with
  | error e => rw [hF.seek_err r off wh e hr hs]; rfl
  | ok v =>
    obtain ⟨r', e, a, hi'⟩ := hF.seek_ok r off wh v.1 v.2 hr hs
    obtain ⟨ha, hi⟩ := hk r' hi' (a ▸ AFile.seek_content hs)
    exact ⟨_, by rw [e]; rfl, rfl, by rw [ha, a], hi⟩

theorem IsReadable.sim_tell_through {τ : Type} {invW : τ → Prop} {absW : τ → AFile} {g : Bytes → Bytes}
    (k : σ → τ) (r : σ) (hr : inv r)
    (hk : ∀ r', inv r' → abs r' = abs r → absW (k r') = (abs r').mapContent g ∧ invW (k r')) :
    SimG (OpRel invW absW) (F.tell r >>= fun x => .ok (x.1, k x.2)) (AFile.ops.tell ((abs r).mapContent g)) := by
  obtain ⟨r', e, a, v⟩ := hF.tell r hr
  obtain ⟨ha, hi⟩ := hk r' v a
  exact ⟨_, by rw [e]; rfl, rfl, by rw [ha, a], hi⟩

theorem IsReadable.seek_set (r : σ) (p : Nat) (hr : inv r) (hp : p ≤ (abs r).content.length) :
    ∃ r', F.seek r (p : Int) 0 = .ok (p, r') ∧ abs r' = { abs r with pos := p } ∧ inv r' :=
  hF.seek_ok r p 0 p _ hr ((abs r).seek_set p hp)

theorem IsReadable.read_nat (r : σ) (k : Nat) (hr : inv r) (hk : (abs r).pos + k ≤ (abs r).content.length) :
    ∃ r', F.read r (k : Int) = .ok (slice (abs r).content (abs r).pos k, r') ∧
      abs r' = { abs r with pos := (abs r).pos + k } ∧ inv r' := by
  obtain ⟨r', e, a, v⟩ := hF.read r k hr
  rw [AFile.read_eq, AFile.readLen_natCast, Nat.min_eq_left (Nat.le_sub_of_add_le' hk)] at e a
  exact ⟨r', e, a, v⟩

end

/-- over a file that cannot grow (a window) no write leaves a gap: the unconditional refinement holds -/
theorem IsFileW.isFile_of_fixed (hF : IsFileW F inv abs) (hfix : ∀ s, inv s → (abs s).fixed = true) : IsFile F inv abs where
  toIsReadable := hF.toIsReadable
  write s w h := hF.write s w h (Or.inl (hfix s h))

def Op.isWrite : Op → Bool
  | .write _ => true
  | _ => false

/-- along the abstract run, no write starts past the end of a growable file -/
def AFile.noGapRun : AFile → List Op → Prop
  | _, [] => True
  | a, op :: ops => (op.isWrite = true → a.noGap) ∧ AFile.noGapRun (AFile.ops.step a op).2 ops

theorem step_refines (hR : IsReadable F inv abs) (s : σ) (h : inv s) (op : Op)
    (hW : ∀ w, op = .write w →
      ∃ s', F.write s w = .ok (((abs s).write w).1, s') ∧ abs s' = ((abs s).write w).2 ∧ inv s') :
    (F.step s op).1 = (AFile.ops.step (abs s) op).1 ∧
    abs (F.step s op).2 = (AFile.ops.step (abs s) op).2 ∧ inv (F.step s op).2 := by
  cases op with
  | read n =>
    obtain ⟨s', e, a, v⟩ := hR.read s n h
    simp only [FileOps.step, e]
    exact ⟨rfl, a, v⟩
  | write w =>
    obtain ⟨s', e, a, v⟩ := hW w rfl
    simp only [FileOps.step, e]
    exact ⟨rfl, a, v⟩
  | seek o w =>
    cases hs : (abs s).seek o w with
    | error e =>
      simpa only [FileOps.step, hR.seek_err s o w e h hs, ops_seek, hs, true_and] using h
    | ok v =>
      obtain ⟨s', e, a, v⟩ := hR.seek_ok s o w v.1 v.2 h hs
      simpa only [FileOps.step, e, ops_seek, hs, true_and] using ⟨a, v⟩
  | tell =>
    obtain ⟨s', e, a, v⟩ := hR.tell s h
    simp only [FileOps.step, e]
    exact ⟨rfl, a, v⟩

/-- Refinement lifted to histories.  `G` is what is assumed of the abstract run: it must make every write of the history agree
    with the abstract file and be kept by the abstract steps (no writes; `noGapRun`; nothing, for an `IsFile`). -/
theorem run_refines {G : AFile → List Op → Prop}
    (hstep : ∀ s op ops, inv s → G (abs s) (op :: ops) →
      (∀ w, op = .write w →
        ∃ s', F.write s w = .ok (((abs s).write w).1, s') ∧ abs s' = ((abs s).write w).2 ∧ inv s') ∧
      G (AFile.ops.step (abs s) op).2 ops)
    (hR : IsReadable F inv abs) (ops : List Op) (s : σ) (h : inv s) (hg : G (abs s) ops) :
    (F.run s ops).1 = (AFile.ops.run (abs s) ops).1 ∧
    abs (F.run s ops).2 = (AFile.ops.run (abs s) ops).2 ∧ inv (F.run s ops).2 := by
  induction ops generalizing s with
  | nil => exact ⟨rfl, rfl, h⟩
  | cons op ops ih =>
    obtain ⟨hW, g⟩ := hstep s op ops h hg
    obtain ⟨o, a, v⟩ := step_refines hR s h op hW
    obtain ⟨o2, a2, v2⟩ := ih (F.step s op).2 v (a ▸ g)
    simp only [FileOps.run]
    exact ⟨by rw [o, o2, a], by rw [a2, a], v2⟩

theorem isReadable_run (hF : IsReadable F inv abs) (ops : List Op) (hro : ∀ op ∈ ops, op.isWrite = false)
    (s : σ) (h : inv s) :
    (F.run s ops).1 = (AFile.ops.run (abs s) ops).1 ∧
    abs (F.run s ops).2 = (AFile.ops.run (abs s) ops).2 ∧ inv (F.run s ops).2 :=
  run_refines (G := fun _ ops => ∀ op ∈ ops, op.isWrite = false)
    (fun _ op _ _ hg => ⟨fun _ e => (nomatch e ▸ hg op (List.mem_cons_self ..)),
      fun op' hm => hg op' (List.mem_cons_of_mem _ hm)⟩) hF ops s h hro

theorem isFileW_run (hF : IsFileW F inv abs) (ops : List Op) (s : σ) (h : inv s)
    (hg : AFile.noGapRun (abs s) ops) :
    (F.run s ops).1 = (AFile.ops.run (abs s) ops).1 ∧
    abs (F.run s ops).2 = (AFile.ops.run (abs s) ops).2 ∧ inv (F.run s ops).2 :=
  run_refines (G := AFile.noGapRun)
    (fun s _ _ h hg => ⟨fun w e => hF.write s w h (hg.1 (e ▸ rfl)), hg.2⟩) hF.toIsReadable ops s h hg
end

theorem PyFile.seek_eq (f : PyFile) (off wh : Int) :
    f.seek off wh = (AFile.seekPos f.buf.length f.pos false off wh).map fun p => (p, { f with pos := p }) :=
  (AFile.seekPos_map (fun p => (p, ({ f with pos := p } : PyFile))) f.buf.length f.pos false off wh).symm

/-- `BytesIO.read` differs from the abstract read only in saying "nothing there" first -/
theorem PyFile.read_eq (f : PyFile) (n : Int) :
    f.read n = (slice f.buf f.pos (f.abs.readLen n), { f with pos := f.pos + f.abs.readLen n }) := by
  unfold PyFile.read
  split
  · rename_i h
    rw [f.abs.readLen_past n h, slice_zero_len]; rfl
  · rfl

theorem PyFile.abs_write (f : PyFile) (w : Bytes) : f.abs.write w = ((f.write w).1, (f.write w).2.abs) := by
  show (if w.isEmpty then _ else _) = _
  unfold PyFile.write
  split <;> rfl

theorem pyfile_isFile : IsFile PyFile.ops (fun _ => True) PyFile.abs where
  toIsReadable := .of_sim (fun f n _ => ⟨_, congrArg Except.ok (PyFile.read_eq f n), rfl, rfl, trivial⟩)
    (fun f off wh _ => by
      show SimG _ (f.seek off wh) _
      rw [PyFile.seek_eq]
      exact sim_seekPos (abs := PyFile.abs) f (fun p => { f with pos := p }) off wh fun p => ⟨rfl, trivial⟩)
    (fun f _ => ⟨_, rfl, rfl, rfl, trivial⟩)
  write f w _ := ⟨(f.write w).2, by rw [PyFile.abs_write]; rfl, by rw [PyFile.abs_write], trivial⟩

end Pyctr
