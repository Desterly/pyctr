/-
  C07: the name aliases, and the header round trip.  The reader's loop inserts the stored entries in slot order whatever their
  names; pairwise distinct names make the insertion-ordered dict a plain append.
-/
import PyctrModel.Fmt.Exefs
import Proofs.BytesLemmas
namespace Pyctr
namespace Exefs

theorem endsWith_append (p s : Bytes) : endsWith (p ++ s) s = true := by
  simp [endsWith]

theorem stripSlash_noslash (N : Bytes) (h1 : N.head? ≠ some 0x2F) : stripSlash N = N := by
  have : (N.head? == some (0x2F : UInt8)) = false := by simpa using h1
  simp [stripSlash, this]

theorem stripSlash_cons (P : Bytes) : stripSlash ((0x2F : UInt8) :: P) = P := by
  simp [stripSlash]

theorem stripBin_plain (N : Bytes) (h2 : endsWith (N.map lowerAscii) dotBin = false) : stripBin N = N := by
  simp [stripBin, h2]

theorem stripBin_bin (N : Bytes) : stripBin (N ++ dotBin) = N := by
  have he : endsWith ((N ++ dotBin).map lowerAscii) dotBin = true := by
    rw [List.map_append, show dotBin.map lowerAscii = dotBin by decide]; exact endsWith_append _ _
  simp only [stripBin, he, if_true]
  have h4 : (-4 : Int) = -((4 : Nat) : Int) := rfl
  rw [h4, pySlice_dropLast _ 4 (by omega)]
  simp [dotBin]

theorem rstripNul_append_zeros (n : Bytes) (k : Nat) (h : ∀ b, n.getLast? = some b → b ≠ 0) : rstripNul (n ++ zeros k) = n :=
  rstrip_append_replicate 0 n k h

structure WfEntry (e : Entry) : Prop where
  name_ne : e.name ≠ []
  name_len : e.name.length ≤ 8
  name_ascii : ∀ b ∈ e.name, b ≠ 0 ∧ b < 0x80
  off_lt : e.offset < 2 ^ 32
  size_lt : e.size < 2 ^ 32
  aligned : e.offset % 0x200 = 0
  hash_len : e.hash.length = 32

def WfSlot : Option Entry → Prop
  | none => True
  | some e => WfEntry e

theorem encodeSlot_length (o : Option Entry) (h : WfSlot o) : (encodeSlot o).length = 16 := by
  cases o with
  | none => simp [encodeSlot]
  | some e =>
    have := h.name_len
    simp [encodeSlot]; omega

theorem hashOf_length (o : Option Entry) (h : WfSlot o) : (hashOf o).length = 32 := by
  cases o with
  | none => simp [hashOf]
  | some e => exact h.hash_len

theorem parseSlot_of_slices (header : Bytes) (i : Nat) (o : Option Entry) (hwf : WfSlot o)
    (hraw : slice header (16 * i) 16 = encodeSlot o) (hhash : slice header (0x1E0 - 0x20 * i) 0x20 = hashOf o) :
    parseSlot header i = .ok o := by
  unfold parseSlot
  simp only [hraw, hhash]
  cases o with
  | none => simp [encodeSlot]
  | some e =>
    have hw : WfEntry e := hwf
    have hnl := hw.name_len
    -- a name byte is not NUL, so the record is not the empty slot
    have hne : (encodeSlot (some e) == zeros 16) = false := by
      obtain ⟨a, ha⟩ := List.exists_mem_of_ne_nil _ hw.name_ne
      refine beq_false_of_ne fun h => (hw.name_ascii a ha).1 ((List.eq_replicate_iff.mp h).2 a ?_)
      simp [encodeSlot, ha]
    have L : Laid (encodeSlot (some e)) 0 [e.name ++ zeros (8 - e.name.length), toLE 4 e.offset, toLE 4 e.size] :=
      .of_flatten (by simp [encodeSlot])
    have h8 : (e.name ++ zeros (8 - e.name.length)).length = 8 := by simp; omega
    simp only [Laid, h8, toLE_length, Nat.zero_add, Nat.reduceAdd] at L
    obtain ⟨hs1, hs2, hs3, -⟩ := L
    have hname := rstripNul_append_zeros e.name (8 - e.name.length) fun b hb => (hw.name_ascii b (List.mem_of_getLast? hb)).1
    have hany : e.name.any (· ≥ 0x80) = false :=
      List.any_eq_false.mpr fun b hb => by simpa using (hw.name_ascii b hb).2
    simp only [hne, Bool.false_eq_true, if_false, hs1, hname, hany, hs2, hs3,
      readLE_toLE 4 _ hw.off_lt, readLE_toLE 4 _ hw.size_lt,
      hw.aligned, ne_eq, not_true_eq_false]
    rfl

/-- slot `i` stands at `16 i`; the hashes stand in reverse slot order at the end of the header -/
theorem parseSlot_build (table : List (Option Entry)) (hlen : table.length = 10) (hwf : ∀ o ∈ table, WfSlot o)
    (i : Nat) (hi : i < table.length) : parseSlot (build table) i = .ok table[i] := by
  refine parseSlot_of_slices _ i _ (hwf _ (List.getElem_mem hi)) ?_ ?_
  · unfold build; rw [List.append_assoc]
    exact slice_flatMap_const encodeSlot 16 table _ (fun x hx => encodeSlot_length x (hwf x hx)) i hi
  · have hA : (table.flatMap encodeSlot ++ zeros 0x20).length = 192 := by
      simp [length_flatMap_const encodeSlot 16 table (fun x hx => encodeSlot_length x (hwf x hx)), hlen]
    have := slice_flatMap_const hashOf 32 table.reverse []
      (fun x hx => hashOf_length x (hwf x (by simpa using hx))) (9 - i) (by simp; omega)
    rw [List.append_nil, List.getElem_reverse] at this
    unfold build
    rw [slice_append_right' _ _ _ (32 * (9 - i)) _ (by rw [hA]; omega), this]
    simp only [show table.length - 1 - (9 - i) = i by omega]

def stored (table : List (Option Entry)) : List Entry := table.filterMap id

theorem dictInsert_fresh (l : List Entry) (e : Entry) (h : ∀ x ∈ l, x.name ≠ e.name) : dictInsert l e = l ++ [e] :=
  if_neg fun hany => let ⟨x, hx, hk⟩ := List.any_eq_true.mp hany; h x hx (eq_of_beq hk)

theorem foldl_dictInsert (l acc : List Entry) (h : (acc ++ l).Pairwise (fun a b => a.name ≠ b.name)) :
    l.foldl dictInsert acc = acc ++ l := by
  induction l generalizing acc with
  | nil => exact (List.append_nil acc).symm
  | cons e l ih =>
    rw [List.foldl_cons, dictInsert_fresh acc e fun x hx => (List.pairwise_append.mp h).2.2 x hx e List.mem_cons_self,
      ih (acc ++ [e]) (by rwa [List.append_assoc]), List.append_assoc, List.singleton_append]

/-- no hypothesis on the names: they matter only to what `dictInsert` then does -/
theorem parseFrom_build (table : List (Option Entry)) (hlen : table.length = 10) (hwf : ∀ o ∈ table, WfSlot o)
    (n i : Nat) (hn : i + n = 10) (acc : List Entry) :
    parseFrom (build table) n i acc = .ok ((stored (table.drop i)).foldl dictInsert acc) := by
  induction n generalizing i acc with
  | zero => simp [parseFrom, stored, List.drop_of_length_le (show table.length ≤ i by omega)]
  | succ m ih =>
    have hi : i < table.length := by omega
    rw [parseFrom, parseSlot_build table hlen hwf i hi, ← List.getElem_cons_drop hi]
    cases table[i] with
    | none => exact ih (i + 1) (by omega) acc
    | some e => exact ih (i + 1) (by omega) (dictInsert acc e)

theorem parseFrom_error (header : Bytes) (i : Nat) (e : Err) (herr : parseSlot header i = .error e)
    (hok : ∀ j < i, ∃ r, parseSlot header j = .ok r) :
    ∀ (n j : Nat) (acc : List Entry), j ≤ i → i < j + n → parseFrom header n j acc = .error e
  | 0, j, _, h1, h2 => by omega
  | m + 1, j, acc, h1, h2 => by
    by_cases hji : j = i
    · subst hji; simp [parseFrom, herr]
    · obtain ⟨r, hr⟩ := hok j (by omega)
      simp only [parseFrom, hr]
      cases r with
      | none => exact parseFrom_error header i e herr hok m (j + 1) acc (by omega) (by omega)
      | some x => exact parseFrom_error header i e herr hok m (j + 1) _ (by omega) (by omega)

end Exefs
end Pyctr
