/-
  `SplitFileMerger`.  The loop of `read` is followed on the suffix of the list of parts that begins with the current part: it looks
  at nothing before it.  What a round changes, the handles inside the parts, does not show through `view`, on which the geometry
  and the merged content depend.
-/
import PyctrModel.IO.Merger
import Proofs.Sim
namespace Pyctr
namespace Merger
variable {σ : Type} {F : FileOps σ} {inv : σ → Prop} {abs : σ → AFile}

/-- each part's recorded `start` is where the parts before it end, counting from `cur` (what `mkSegs` builds) -/
def WfSegs : List (Seg σ) → Nat → Prop
  | [], _ => True
  | sg :: rest, cur => sg.start = cur ∧ WfSegs rest (cur + sg.size)

def segsTotal : List (Seg σ) → Nat
  | [] => 0
  | sg :: rest => sg.size + segsTotal rest

theorem segsTotal_eq_sum (files : List (Seg σ)) : segsTotal files = (files.map (·.size)).sum := by
  induction files with
  | nil => rfl
  | cons a t ih => rw [segsTotal, ih, List.map_cons, List.sum_cons]

theorem segsTotal_append (a b : List (Seg σ)) : segsTotal (a ++ b) = segsTotal a + segsTotal b := by
  rw [segsTotal_eq_sum, segsTotal_eq_sum, segsTotal_eq_sum, List.map_append, List.sum_append]

/-- the merged content: the first `size` bytes of each part, concatenated -/
def segContent (abs : σ → AFile) (files : List (Seg σ)) : Bytes :=
  files.flatMap fun sg => (abs sg.fh).content.take sg.size

def SegOK (inv : σ → Prop) (abs : σ → AFile) (sg : Seg σ) : Prop := inv sg.fh ∧ sg.size ≤ (abs sg.fh).content.length

theorem segContent_length (files : List (Seg σ)) (h : ∀ sg ∈ files, SegOK inv abs sg) :
    (segContent abs files).length = segsTotal files := by
  induction files with
  | nil => rfl
  | cons sg rest ih =>
    have h1 := (h sg (by simp)).2
    simp only [segContent, List.flatMap_cons, List.length_append, List.length_take, segsTotal] at ih ⊢
    rw [ih (fun s hs => h s (by simp [hs]))]; omega

def FilesInv (inv : σ → Prop) (abs : σ → AFile) (files : List (Seg σ)) : Prop :=
  WfSegs files 0 ∧ ∀ sg ∈ files, SegOK inv abs sg

/-- all that the merged file's geometry and content depend on -/
def view (abs : σ → AFile) (sg : Seg σ) : Nat × Nat × Bytes := (sg.start, sg.size, (abs sg.fh).content)

theorem wfSegs_congr : ∀ {a b : List (Seg σ)} (c : Nat), a.map (view abs) = b.map (view abs) → WfSegs a c → WfSegs b c
  | [], [], _, _, _ => trivial
  | x :: a, y :: b, c, h, hw => by
    simp only [List.map_cons, List.cons.injEq, view, Prod.mk.injEq] at h
    exact ⟨h.1.1 ▸ hw.1, h.1.2.1 ▸ wfSegs_congr _ h.2 hw.2⟩

theorem view_congr {a b : List (Seg σ)} (h : a.map (view abs) = b.map (view abs)) :
    segContent abs a = segContent abs b ∧ segsTotal a = segsTotal b := by
  have hc : ∀ l : List (Seg σ), segContent abs l = (l.map (view abs)).flatMap fun v => v.2.2.take v.2.1 := fun l => by
    simp only [segContent, List.flatMap_map, view]
  have hs : ∀ l : List (Seg σ), segsTotal l = ((l.map (view abs)).map (·.2.1)).sum := fun l => by
    rw [segsTotal_eq_sum, List.map_map]; rfl
  exact ⟨by rw [hc, hc, h], by rw [hs, hs, h]⟩

theorem filesInv_of_view {files files' : List (Seg σ)} (hv : files'.map (view abs) = files.map (view abs))
    (hi : ∀ x ∈ files', inv x.fh) (h : FilesInv inv abs files) : FilesInv inv abs files' := by
  refine ⟨wfSegs_congr 0 hv.symm h.1, fun x hx => ⟨hi x hx, ?_⟩⟩
  obtain ⟨y, hy, e⟩ := List.mem_map.mp (hv ▸ List.mem_map_of_mem (f := view abs) hx)
  simp only [view, Prod.mk.injEq] at e
  rw [← e.2.1, ← e.2.2]; exact (h.2 y hy).2

theorem wfSegs_split : ∀ (files : List (Seg σ)) (c i : Nat) (hi : i < files.length), WfSegs files c →
    ∃ pre post, files = pre ++ files[i] :: post ∧ pre.length = i ∧ files[i].start = c + segsTotal pre ∧
      WfSegs (files[i] :: post) files[i].start
  | a :: t, c, 0, _, hw => ⟨[], t, rfl, rfl, hw.1, rfl, hw.1 ▸ hw.2⟩
  | a :: t, c, j + 1, hi, hw => by
    obtain ⟨pre, post, e, l, s, w⟩ := wfSegs_split t (c + a.size) j (by simpa using hi) hw.2
    exact ⟨a :: pre, post, congrArg (a :: ·) e, congrArg (· + 1) l,
      by simp only [List.getElem_cons_succ, s, segsTotal, Nat.add_assoc], w⟩

structure LoopPost (inv : σ → Prop) (abs : σ → AFile) (files files' : List (Seg σ)) (idx' pos : Nat) : Prop where
  views : files'.map (view abs) = files.map (view abs)
  handles : ∀ x ∈ files', inv x.fh
  current : ∃ (h' : idx' < files'.length), files'[idx'].start ≤ pos ∧ pos ≤ files'[idx'].start + files'[idx'].size

theorem readLoop_append (pre : List (Seg σ)) : ∀ (fuel : Nat) (rest : List (Seg σ)) (i fake left : Nat) (acc : Bytes),
    readLoop F fuel (pre ++ rest) (pre.length + i) fake left acc =
      (readLoop F fuel rest i fake left acc).map fun x => (x.1, pre ++ x.2.1, pre.length + x.2.2.1, x.2.2.2) := by
  intro fuel
  induction fuel with
  | zero => intro _ _ _ _ _; rfl
  | succ n ih =>
    intro rest i fake left acc
    unfold readLoop
    rw [List.getElem?_append_right (Nat.le_add_right ..), Nat.add_sub_cancel_left]
    cases rest[i]? with
    | none => rfl
    | some info =>
      simp only
      cases F.seek info.fh (fake - info.start : Nat) 0 with
      | error e => rfl
      | ok v1 =>
        simp only [bind, Except.bind]
        cases F.read v1.2 (min (info.size - (fake - info.start)) left : Nat) with
        | error e => rfl
        | ok v2 =>
          simp only [List.set_append_right _ _ (Nat.le_add_right ..), Nat.add_sub_cancel_left]
          split
          · rfl
          · rw [Nat.add_assoc, ih]

theorem round_io (hF : IsReadable F inv abs) {sg : Seg σ} (hsg : SegOK inv abs sg) {r t : Nat} (hts : r + t ≤ sg.size) :
    ∃ f1 f2, F.seek sg.fh (r : Int) 0 = .ok (r, f1) ∧ F.read f1 (t : Int) = .ok (slice (abs sg.fh).content r t, f2) ∧
      inv f2 ∧ (abs f2).content = (abs sg.fh).content := by
  obtain ⟨f1, e1, a1, v1⟩ := hF.seek_set sg.fh r hsg.1 (Nat.le_trans (Nat.le_trans (Nat.le_add_right r t) hts) hsg.2)
  obtain ⟨f2, e2, a2, v2⟩ := hF.read_nat f1 t v1 (by rw [a1]; exact Nat.le_trans hts hsg.2)
  rw [a1] at e2 a2
  exact ⟨f1, f2, e1, e2, v2, by rw [a2]⟩

/-- a round: `a` gives `t` bytes, all that is wanted or all that it still has (`hrt`), and what follows `a` gives the rest -/
theorem slice_append_round (a b : Bytes) {r t n : Nat} (hts : r + t ≤ a.length) (htl : t ≤ n)
    (hrt : n - t ≠ 0 → r + t = a.length) : slice (a ++ b) r n = slice a r t ++ slice b 0 (n - t) := by
  rw [slice_append_span a b r n (Nat.le_trans (Nat.le_add_right r t) hts), slice_clamp a r n]
  by_cases h : n - t = 0
  · obtain rfl : t = n := Nat.le_antisymm htl (Nat.le_of_sub_eq_zero h)
    rw [Nat.min_eq_left (Nat.le_sub_of_add_le' hts), Nat.sub_eq_zero_of_le (Nat.le_sub_of_add_le' hts), Nat.sub_self]
  · rw [← hrt h, Nat.add_sub_cancel_left, Nat.min_eq_right htl]

/-- the `while True` loop of `read`, started `r` bytes into the first part `sg` of a list -/
theorem readLoop_spec (hF : IsReadable F inv abs) : ∀ (fuel : Nat) (sg : Seg σ) (post : List (Seg σ))
    (r left : Nat) (acc : Bytes),
    (∀ x ∈ sg :: post, SegOK inv abs x) → WfSegs (sg :: post) sg.start →
    r ≤ sg.size → r + left ≤ segsTotal (sg :: post) → post.length < fuel →
    ∃ files' idx', readLoop F fuel (sg :: post) 0 (sg.start + r) left acc =
        .ok (acc ++ slice (segContent abs (sg :: post)) r left, files', idx', sg.start + r + left) ∧
      LoopPost inv abs (sg :: post) files' idx' (sg.start + r + left) := by
  intro fuel
  induction fuel with
  | zero => intro _ _ _ _ _ _ _ _ _ hf; exact absurd hf (Nat.not_lt_zero _)
  | succ n ih =>
    intro sg post r left acc hok hw hr htot hfuel
    obtain ⟨hsg, hpost⟩ := List.forall_mem_cons.mp hok
    have hcons : segContent abs (sg :: post) = (abs sg.fh).content.take sg.size ++ segContent abs post := rfl
    have hA : ((abs sg.fh).content.take sg.size).length = sg.size := by rw [List.length_take]; exact Nat.min_eq_left hsg.2
    -- the round takes `t` bytes: all that is wanted, or all that the part still has
    have hts : r + min (sg.size - r) left ≤ sg.size :=
      Nat.le_trans (Nat.add_le_add_left (Nat.min_le_left ..) _) (Nat.le_of_eq (Nat.add_sub_cancel' hr))
    have htl : min (sg.size - r) left ≤ left := Nat.min_le_right ..
    have hrt : left - min (sg.size - r) left ≠ 0 → r + min (sg.size - r) left = sg.size := fun h => by omega
    unfold readLoop
    simp only [List.getElem?_cons_zero, Nat.add_sub_cancel_left]
    generalize min (sg.size - r) left = t at hts htl hrt ⊢
    obtain ⟨f1, f2, e1, e2, v2, c2⟩ := round_io hF hsg hts
    have hsl := fun b => slice_append_round ((abs sg.fh).content.take sg.size) b (n := left) (hA.symm ▸ hts) htl (hA.symm ▸ hrt)
    rw [slice_take_of_le _ _ _ _ hts] at hsl
    have hview : ({ sg with fh := f2 } :: post).map (view abs) = (sg :: post).map (view abs) := by
      simp only [List.map_cons, view, c2]
    simp only [e1, e2, bind, Except.bind, List.set_cons_zero]
    by_cases hdone : left - t = 0
    · obtain rfl : t = left := Nat.le_antisymm htl (Nat.le_of_sub_eq_zero hdone)
      rw [if_pos hdone, hcons, hsl, hdone, slice_zero_len, List.append_nil]
      exact ⟨_, 0, rfl,
        { views := hview
          handles := List.forall_mem_cons.mpr ⟨v2, fun x hx => (hpost x hx).1⟩
          current := ⟨Nat.zero_lt_succ _, Nat.le_trans (Nat.le_add_right ..) (Nat.le_add_right ..),
            by rw [Nat.add_assoc]; exact Nat.add_le_add_left hts _⟩ }⟩
    · rw [if_neg hdone]
      have hrt := hrt hdone
      cases post with
      | nil =>
        -- the last part is used up and bytes are still wanted: there were not that many
        exact absurd (Nat.sub_eq_zero_of_le (Nat.le_of_add_le_add_left (show r + left ≤ r + t from hrt ▸ htot))) hdone
      | cons sg2 post' =>
        obtain ⟨_, hs2, hw2⟩ := hw
        -- the next round starts at the beginning of the next part
        have hfk : sg.start + r + t = sg2.start + 0 := by rw [Nat.add_assoc, hrt, hs2, Nat.add_zero]
        have q : sg.start + r + t + (left - t) = sg.start + r + left := by rw [Nat.add_assoc _ t, Nat.add_sub_cancel' htl]
        have h3 : sg.size + (left - t) = r + left := by rw [← hrt, Nat.add_assoc, Nat.add_sub_cancel' htl]
        obtain ⟨files', idx', e, hv, hi, h', hb⟩ := ih sg2 post' 0 (left - t)
          (acc ++ slice (abs sg.fh).content r t) hpost ⟨rfl, hs2 ▸ hw2⟩ (Nat.zero_le _)
          (Nat.zero_add _ ▸ Nat.le_of_add_le_add_left (h3 ▸ htot)) (Nat.lt_of_succ_lt_succ hfuel)
        rw [← hfk, q] at e hb
        have hsh := readLoop_append (F := F) [{ sg with fh := f2 }] n (sg2 :: post') 0 (sg.start + r + t) (left - t)
          (acc ++ slice (abs sg.fh).content r t)
        rw [e] at hsh
        simp only [Except.map, List.cons_append, List.nil_append, List.length_cons, List.length_nil, Nat.zero_add,
          Nat.add_zero] at hsh ⊢
        rw [Nat.add_comm 1 idx'] at hsh
        refine ⟨_, _, hsh.trans (congrArg Except.ok (Prod.ext ?_ rfl)),
          { views := congrArg (_ :: ·) hv |>.trans hview
            handles := List.forall_mem_cons.mpr ⟨v2, hi⟩
            current := ⟨Nat.succ_lt_succ h', hb⟩ }⟩
        show _ ++ _ ++ _ = acc ++ _
        rw [hcons, hsl, List.append_assoc]

theorem readLoop_files (hF : IsReadable F inv abs) (files : List (Seg σ)) (idx fake left : Nat)
    (hinv : FilesInv inv abs files) (hidx : idx < files.length) (hlo : files[idx].start ≤ fake)
    (hhi : fake ≤ files[idx].start + files[idx].size) (htot : fake + left ≤ segsTotal files) :
    ∃ files' idx', readLoop F (files.length + 1) files idx fake left [] =
        .ok (slice (segContent abs files) fake left, files', idx', fake + left) ∧
      LoopPost inv abs files files' idx' (fake + left) := by
  obtain ⟨pre, post, hf, hl, hs, hw⟩ := wfSegs_split files 0 idx hidx hinv.1
  generalize files[idx] = sg at *
  subst hf hl
  have hok := hinv.2
  rw [segsTotal_append] at htot
  -- `fake` is `r` bytes into part `idx`, which starts where `pre` ends
  obtain ⟨r, rfl⟩ : ∃ r, fake = sg.start + r := ⟨fake - sg.start, (Nat.add_sub_cancel' hlo).symm⟩
  rw [Nat.zero_add] at hs
  obtain ⟨files', idx', e, hv, hi, h', hb⟩ := readLoop_spec hF ((pre ++ sg :: post).length + 1) sg post r left []
    (fun x hx => hok x (List.mem_append_right _ hx)) hw (Nat.le_of_add_le_add_left hhi)
    (Nat.le_of_add_le_add_left (hs ▸ Nat.add_assoc .. ▸ htot))
    (by rw [List.length_append, List.length_cons]
        exact Nat.lt_succ_of_le (Nat.le_trans (Nat.le_succ _) (Nat.le_add_left ..)))
  have happ := readLoop_append (F := F) pre ((pre ++ sg :: post).length + 1) (sg :: post) 0 (sg.start + r) left []
  rw [e, Nat.add_zero pre.length] at happ
  have hpl := segContent_length pre fun x hx => hok x (List.mem_append_left _ hx)
  refine ⟨pre ++ files', pre.length + idx', ?_,
    { views := by rw [List.map_append, hv, List.map_append]
      handles := fun x hx => (List.mem_append.mp hx).elim (fun hx => (hok x (List.mem_append_left _ hx)).1) (hi x)
      current := ⟨by rw [List.length_append]; exact Nat.add_lt_add_left h' _,
        by rw [List.getElem_append_right (Nat.le_add_right ..)]; simpa only [Nat.add_sub_cancel_left] using hb⟩ }⟩
  rw [happ]
  simp only [Except.map, List.nil_append, segContent, List.flatMap_append]
  rw [slice_append_right' _ _ (sg.start + r) r left (by rw [← segContent, hpl, hs])]

theorem wfSegs_mem : ∀ (files : List (Seg σ)) (cur pos : Nat), WfSegs files cur → cur ≤ pos →
    pos < cur + segsTotal files → ∃ sg ∈ files, sg.start ≤ pos ∧ pos < sg.start + sg.size
  | [], _, _, _, hlo, hhi => absurd hhi (Nat.not_lt.mpr hlo)
  | sg :: rest, cur, pos, ⟨hs, hw⟩, hlo, hhi => by
    by_cases hin : pos < cur + sg.size
    · exact ⟨sg, List.mem_cons_self .., hs ▸ hlo, hs ▸ hin⟩
    · obtain ⟨x, hx, hb⟩ := wfSegs_mem rest (cur + sg.size) pos hw (Nat.le_of_not_lt hin)
        (by rw [Nat.add_assoc]; exact hhi)
      exact ⟨x, List.mem_cons_of_mem _ hx, hb⟩

theorem findIdx_some (files : List (Seg σ)) (pos i : Nat) (h : findIdx files pos = some i) :
    ∃ (hi : i < files.length), files[i].start ≤ pos ∧ pos < files[i].start + files[i].size := by
  obtain ⟨hi, hp, _⟩ := List.findIdx?_eq_some_iff_getElem.mp h
  exact ⟨hi, by simpa using hp⟩

/-- the current part contains the position, its end included (where a read leaves it), as long as the position is inside the
    file; at or past the end `calcSeek` finds no part and leaves a stale `idx`, which `read` then never looks at -/
def invM (inv : σ → Prop) (abs : σ → AFile) (m : Merger σ) : Prop :=
  FilesInv inv abs m.files ∧ m.total = segsTotal m.files ∧
  (m.fake < m.total → ∃ (h : m.idx < m.files.length),
     m.files[m.idx].start ≤ m.fake ∧ m.fake ≤ m.files[m.idx].start + m.files[m.idx].size)

/-- `true, false`: read-only, so it cannot grow; but `seek` stores any offset unclamped, and a read from past the end is empty -/
def absM (abs : σ → AFile) (m : Merger σ) : AFile := ⟨segContent abs m.files, m.fake, true, false⟩

theorem calcSeek_fake (m : Merger σ) (pos : Nat) : (calcSeek m pos).fake = pos := by
  fun_cases calcSeek m pos <;> rfl

theorem calcSeek_files (m : Merger σ) (pos : Nat) : (calcSeek m pos).files = m.files := by
  fun_cases calcSeek m pos <;> rfl

theorem calcSeek_inv (m : Merger σ) (pos : Nat) (h : invM inv abs m) : invM inv abs (calcSeek m pos) := by
  fun_cases calcSeek m pos
  case case1 i hf =>
    obtain ⟨hi, hb⟩ := findIdx_some m.files pos i hf
    exact ⟨h.1, h.2.1, fun _ => ⟨hi, hb.1, Nat.le_of_lt hb.2⟩⟩
  case case2 hf =>
    refine ⟨h.1, h.2.1, fun hlt => ?_⟩
    obtain ⟨sg, hm, hb⟩ := wfSegs_mem m.files 0 pos h.1.1 (Nat.zero_le _) (by rw [Nat.zero_add, ← h.2.1]; exact hlt)
    have := List.findIdx?_eq_none_iff.mp hf sg hm
    exact absurd hb (by simpa using this)

theorem absM_len (m : Merger σ) (h : invM inv abs m) : (absM abs m).content.length = m.total := by
  rw [h.2.1]; exact segContent_length m.files h.1.2

/-- the count `read` computes from its argument -/
theorem readCount_eq (m : Merger σ) (n : Int) (h : invM inv abs m) :
    (if n < 0 then m.total - m.fake else if (m.fake : Int) + n > m.total then m.total - m.fake else n.toNat) =
      (absM abs m).readLen n := by
  rw [AFile.readLen_eq, absM_len m h]
  show _ = if n < 0 then m.total - m.fake else min n.toNat (m.total - m.fake)
  by_cases hn : n < 0
  · rw [if_pos hn, if_pos hn]
  · rw [if_neg hn, if_neg hn]
    split
    · exact (Nat.min_eq_right (by omega)).symm
    · exact (Nat.min_eq_left (by omega)).symm

theorem read_refines (hF : IsReadable F inv abs) (m : Merger σ) (n : Int) (h : invM inv abs m) :
    ∃ m', Merger.read F m n = .ok (((absM abs m).read n).1, m') ∧
      absM abs m' = ((absM abs m).read n).2 ∧ invM inv abs m' := by
  have hkle : (absM abs m).readLen n ≤ m.total - m.fake := absM_len m h ▸ AFile.readLen_le _ n
  rw [AFile.read_eq]
  unfold Merger.read
  simp only [readCount_eq m n h]
  generalize (absM abs m).readLen n = k at hkle
  by_cases hz : k = 0
  · subst hz
    exact ⟨m, by rw [if_pos rfl, slice_zero_len], rfl, h⟩
  · rw [if_neg hz]
    have hlt : m.fake < m.total := Nat.lt_of_sub_pos (Nat.lt_of_lt_of_le (Nat.pos_of_ne_zero hz) hkle)
    obtain ⟨hidx, hlo, hhi⟩ := h.2.2 hlt
    obtain ⟨files', idx', e, lp⟩ := readLoop_files hF m.files m.idx m.fake k h.1 hidx hlo hhi
      (h.2.1 ▸ Nat.add_comm k _ ▸ Nat.add_le_of_le_sub (Nat.le_of_lt hlt) hkle)
    obtain ⟨hcont, htot⟩ := view_congr lp.views
    refine ⟨{ m with files := files', idx := idx', fake := m.fake + k }, ?_, ?_, filesInv_of_view lp.views lp.handles h.1,
      h.2.1.trans htot.symm, fun _ => lp.current⟩
    · simp only [e, bind, Except.bind]; rfl
    · simp only [absM, hcont]

theorem seekOp_eq (m : Merger σ) (off wh : Int) :
    Merger.seekOp m off wh = (AFile.seekPos m.total m.fake false off wh).map fun p => (p, calcSeek m p) := by
  -- the code sets a target below 0 to 0 by hand, which `toNat` does anyway
  have e : ∀ t : Nat, ((t : Int) + (if (t : Int) + off < 0 then -(t : Int) else off)).toNat = ((t : Int) + off).toNat :=
    fun t => by
      split
      · rename_i h; rw [Int.add_right_neg, Int.toNat_zero, Int.toNat_of_nonpos (Int.le_of_lt h)]
      · rfl
  rw [AFile.seekPos_map]
  simp only [Merger.seekOp, calcSeek_fake, e]
  rfl

theorem mkSegs_spec : ∀ (l : List (σ × Nat)) (c : Nat), (∀ p ∈ l, inv p.1 ∧ p.2 ≤ (abs p.1).content.length) →
    WfSegs (mkSegs l c) c ∧ (∀ sg ∈ mkSegs l c, SegOK inv abs sg) ∧ (l.map (·.2)).sum = segsTotal (mkSegs l c)
  | [], _, _ => ⟨trivial, fun _ h => (nomatch h), rfl⟩
  | (fh, sz) :: t, c, h => by
    obtain ⟨h1, ht⟩ := List.forall_mem_cons.mp h
    obtain ⟨w, ok, tot⟩ := mkSegs_spec t (c + sz) ht
    exact ⟨⟨rfl, w⟩, List.forall_mem_cons.mpr ⟨h1, ok⟩, by rw [List.map_cons, List.sum_cons, tot]; rfl⟩

end Merger

section
variable {σ : Type} {F : FileOps σ} {inv : σ → Prop} {abs : σ → AFile}

theorem closeWrapper_isReadable (hF : IsReadable F inv abs) : IsReadable (closeWrapperOps F) inv abs where
  read := hF.read
  seek_err := hF.seek_err
  seek_ok := hF.seek_ok
  tell s h := hF.seek_ok s 0 1 _ _ h ((abs s).seek_cur 0)

end

/-! `OpenFile.ops` is no `IsReadable`: for a `whence` other than 0, 1, 2 the code returns the position where an ordinary file raises.
    What holds is stated as equations: `read` is the abstract read, and `seekOp` with one of the three is `seekPos`. -/

namespace OpenFile

/-- `true, true`: read-only, and `seek` clamps to the size of the data -/
def absO (f : OpenFile) : AFile := ⟨f.data, f.seek, true, true⟩

theorem getData_eq (data : Bytes) (offset : Nat) (size : Int) (hs : 0 ≤ size) :
    getData data offset size = slice data offset size.toNat := by
  obtain ⟨m, rfl⟩ := Int.eq_ofNat_of_zero_le hs
  unfold getData
  dsimp only
  by_cases h : offset + m > data.length
  · rw [if_pos (by rw [← Int.natCast_add]; exact Int.ofNat_lt.mpr h), Int.add_comm, Int.sub_add_cancel, pySlice_natCast,
      Int.toNat_natCast, slice_clamp data offset m,
      Nat.min_eq_right (Nat.sub_le_of_le_add (Nat.le_of_lt (Nat.add_comm offset m ▸ h)))]
  · rw [if_neg (by rw [← Int.natCast_add]; exact Int.not_lt.mpr (Int.ofNat_le.mpr (Nat.le_of_not_lt h))),
      ← Int.natCast_add, pySlice_natCast, Nat.add_sub_cancel_left, Int.toNat_natCast]

theorem read_eq (f : OpenFile) (n : Int) :
    f.read n = (slice f.data f.seek ((absO f).readLen n), { f with seek := f.seek + (absO f).readLen n }) := by
  have hk : min (if n < 0 then max ((f.data.length : Int) - f.seek) 0 else n).toNat (f.data.length - f.seek) =
      (absO f).readLen n := by
    rw [AFile.readLen_eq]
    split
    · rw [← Int.toNat_eq_max, Int.toNat_natCast, Int.toNat_sub, Nat.min_self]; rfl
    · rfl
  have hl : (slice f.data f.seek ((absO f).readLen n)).length = (absO f).readLen n := AFile.read_fst_length (absO f) n
  unfold OpenFile.read
  dsimp only
  rw [getData_eq _ _ _ (by split; exact Int.le_max_right ..; exact Int.not_lt.mp ‹_›), slice_clamp, hk, hl]

theorem seekOp_eq (f : OpenFile) (off wh : Int) (hwh : wh = 0 ∨ wh = 1 ∨ wh = 2) :
    f.seekOp off wh = (AFile.seekPos f.data.length f.seek true off wh).map fun p => (p, { f with seek := p }) := by
  rw [AFile.seekPos_map]
  rcases hwh with rfl | rfl | rfl <;> rfl

end OpenFile
end Pyctr
