/-
  Block arithmetic of the save containers: which blocks a byte range touches (`touched`, the model's `blockRange`), how many blocks a
  level has, and that the model's `joinTrim` of the blocks of a range is the range (`joinTrim_slices`).
-/
import Proofs.BytesLemmas
import PyctrModel.Save.Spec
namespace Pyctr
namespace Save

/-- block `b` lies in the range `write_data` re-hashes for a write of `len` bytes at `offset` -/
def touched (offset len bs b : Nat) : Prop := offset / bs ≤ b ∧ b ≤ max ((offset + len + bs - 1) / bs - 1) (offset / bs)

/-- The lemmas on the range take it as `blockRange offset len bs = (sb, eb)` with `sb`, `eb` variables: a proof names the two ends
    once and its terms stay small. -/
theorem blockRange_eq {offset len bs sb eb : Nat} (hr : blockRange offset len bs = (sb, eb)) :
    offset / bs = sb ∧ max ((offset + len + bs - 1) / bs - 1) sb = eb := by
  obtain ⟨rfl, rfl⟩ := Prod.mk.inj hr
  exact ⟨rfl, rfl⟩

theorem blockRange_spec (offset len bs : Nat) (hbs : 0 < bs) (hlen : 0 < len) {sb eb : Nat} (hr : blockRange offset len bs = (sb, eb)) :
    sb ≤ eb ∧ sb * bs ≤ offset ∧ eb * bs < offset + len ∧ offset + len ≤ (eb + 1) * bs := by
  obtain ⟨rfl, rfl⟩ := blockRange_eq hr
  -- `q = ⌈(offset + len) / bs⌉ ≥ 1`, and the last block is `q - 1`
  have hq1 := Nat.div_mul_le_self (offset + len + bs - 1) bs
  have hq2 := Nat.lt_mul_div_succ (offset + len + bs - 1) hbs
  have h1 := Nat.div_mul_le_self offset bs
  rw [Nat.mul_comm] at hq2
  generalize (offset + len + bs - 1) / bs = q at hq1 hq2 ⊢
  obtain ⟨e, rfl⟩ : ∃ e, q = e + 1 := ⟨q - 1, by
    rcases Nat.eq_zero_or_pos q with rfl | h
    · rw [Nat.zero_add, Nat.one_mul] at hq2; omega
    · omega⟩
  rw [Nat.succ_mul] at hq1 hq2
  have hsb : offset / bs ≤ e := by
    have : offset / bs * bs < (e + 1) * bs := by omega
    exact Nat.le_of_lt_succ (Nat.lt_of_mul_lt_mul_right this)
  rw [Nat.add_sub_cancel, Nat.max_eq_left hsb]
  exact ⟨hsb, h1, by omega, by omega⟩

/-- the right side is how the model's loops take the range: `eb + 1 - sb` blocks from `sb` -/
theorem touched_iff (offset len bs b : Nat) {sb eb : Nat} (hr : blockRange offset len bs = (sb, eb)) :
    touched offset len bs b ↔ sb ≤ b ∧ b < sb + (eb + 1 - sb) := by
  obtain ⟨hsb, heb⟩ := blockRange_eq hr
  unfold touched
  rw [hsb, heb]
  omega

theorem touched_iff_meets (offset len bs b : Nat) (hbs : 0 < bs) (hlen : 0 < len) :
    touched offset len bs b ↔ b * bs < offset + len ∧ offset < (b + 1) * bs := by
  obtain ⟨sb, eb, hr⟩ : ∃ sb eb, blockRange offset len bs = (sb, eb) := ⟨_, _, rfl⟩
  obtain ⟨r1, r2, r3, r4⟩ := blockRange_spec offset len bs hbs hlen hr
  have r5 : offset < (sb + 1) * bs := by rw [← (blockRange_eq hr).1, Nat.mul_comm]; exact Nat.lt_mul_div_succ offset hbs
  rw [touched_iff offset len bs b hr]
  constructor
  · rintro ⟨h1, h2⟩
    have a1 : b * bs ≤ eb * bs := Nat.mul_le_mul_right _ (by omega)
    have a2 : (sb + 1) * bs ≤ (b + 1) * bs := Nat.mul_le_mul_right _ (by omega)
    omega
  · rintro ⟨h1, h2⟩
    have := Nat.lt_of_mul_lt_mul_right (show sb * bs < (b + 1) * bs by omega)
    have := Nat.lt_of_mul_lt_mul_right (show b * bs < (eb + 1) * bs by omega)
    omega

theorem touched_of_mem (offset len bs y : Nat) (hbs : 0 < bs) (h1 : offset ≤ y) (h2 : y < offset + len) :
    touched offset len bs (y / bs) := by
  have := Nat.div_mul_le_self y bs
  have : y < (y / bs + 1) * bs := by rw [Nat.mul_comm]; exact Nat.lt_mul_div_succ y hbs
  exact (touched_iff_meets offset len bs _ hbs (by omega)).2 ⟨by omega, by omega⟩

theorem untouched_disjoint (offset len bs b : Nat) (hbs : 0 < bs) (hlen : 0 < len) (h : ¬ touched offset len bs b) :
    b * bs + bs ≤ offset ∨ offset + len ≤ b * bs := by
  rw [touched_iff_meets offset len bs b hbs hlen, Nat.succ_mul] at h
  omega

theorem lt_nblocks_iff (size bs b : Nat) (hbs : 0 < bs) : b < nblocks size bs ↔ b * bs < size := by
  unfold nblocks
  rw [Nat.lt_iff_add_one_le, Nat.le_div_iff_mul_le hbs, Nat.succ_mul]; omega

theorem block_full (size bs b : Nat) (hbs : 0 < bs) (hb : b + 1 < nblocks size bs) : b * bs + bs ≤ size := by
  rw [lt_nblocks_iff _ _ _ hbs, Nat.succ_mul] at hb; omega

theorem le_nblocks_mul (size bs : Nat) (hbs : 0 < bs) : size ≤ nblocks size bs * bs :=
  Nat.le_of_not_lt fun h => Nat.lt_irrefl _ ((lt_nblocks_iff size bs _ hbs).2 h)

theorem block_lt_nblocks (size bs off n : Nat) (hbs : 0 < bs) (hn : 0 < n) (h : off + n ≤ size) {sb eb : Nat}
    (hr : blockRange off n bs = (sb, eb)) : eb < nblocks size bs := by
  obtain ⟨-, -, hlast, -⟩ := blockRange_spec off n bs hbs hn hr
  exact (lt_nblocks_iff _ _ _ hbs).2 (Nat.lt_of_lt_of_le hlast h)

theorem blockRange_hashes_fit (size bs above off n : Nat) (hbs : 0 < bs) (hn : 0 < n) (h : off + n ≤ size)
    (hroom : nblocks size bs * 0x20 ≤ above) {sb eb : Nat} (hr : blockRange off n bs = (sb, eb)) :
    sb * 0x20 + (eb + 1 - sb) * 0x20 ≤ above := by
  have hle := (blockRange_spec off n bs hbs hn hr).1
  rw [← Nat.add_mul, Nat.add_sub_cancel' (Nat.le_succ_of_le hle)]
  exact Nat.le_trans (Nat.mul_le_mul_right _ (block_lt_nblocks size bs off n hbs hn h hr)) hroom

theorem lastSize_same (sb fbo size bs : Nat) :
    lastSize sb sb fbo size bs = if size % bs = 0 then bs else size % bs := by
  simp [lastSize]

theorem lastSize_diff (sb eb fbo size bs : Nat) (h : sb ≠ eb) :
    lastSize sb eb fbo size bs = if (fbo + size) % bs = 0 then bs else (fbo + size) % bs := by
  simp [lastSize, h]

theorem joinTrim_cons_snoc (b : Bytes) (A : List Bytes) (x : Bytes) (fbo k : Nat) :
    joinTrim (b :: (A ++ [x])) fbo k = b.drop fbo ++ A.flatten ++ x.take k := by
  cases A with
  | nil => simp [joinTrim]
  | cons a A =>
    have h1 : (a :: (A ++ [x])).dropLast = a :: A := by
      rw [← List.cons_append, List.dropLast_concat]
    have h2 : (a :: (A ++ [x])).getLast? = some x := by
      rw [← List.cons_append, List.getLast?_concat]
    show List.drop fbo b ++ (a :: (A ++ [x])).dropLast.flatten ++ List.take k ((a :: (A ++ [x])).getLast?.getD []) = _
    rw [h1, h2]; simp

/-- `get_data` / `read` on a level -/
theorem joinTrim_slices (W : Bytes) (bs off size : Nat) (hbs : 0 < bs) (hs : 0 < size) {sb eb : Nat}
    (hr : blockRange off size bs = (sb, eb)) :
    joinTrim ((List.range (eb + 1 - sb)).map fun i => slice W ((sb + i) * bs) bs) (off % bs) (lastSize sb eb (off % bs) size bs) =
      slice W off size := by
  obtain ⟨r1, -, r3, r4⟩ := blockRange_spec off size bs hbs hs hr
  have hoff : off / bs * bs + off % bs = off := by rw [Nat.mul_comm]; exact Nat.div_add_mod off bs
  have hfbo := Nat.mod_lt off hbs
  rw [(blockRange_eq hr).1] at hoff
  generalize off % bs = fbo at hoff hfbo ⊢
  subst hoff
  -- `lastSize` is `l % bs`, with `bs` for 0, of the `l` bytes that reach into the last block
  have hlast : ∀ l, 0 < l → l ≤ bs → (if l % bs = 0 then bs else l % bs) = l := fun l h0 h1 => by
    by_cases h : l = bs
    · rw [h, Nat.mod_self, if_pos rfl]
    · rw [Nat.mod_eq_of_lt (by omega), if_neg (by omega)]
  rcases Nat.eq_or_lt_of_le r1 with rfl | hlt
  · -- one block: `size ≤ bs - fbo`
    rw [Nat.succ_mul] at r4
    rw [lastSize_same, hlast size hs (by omega), Nat.add_sub_cancel_left]
    simp only [List.range_one, List.map_cons, List.map_nil, joinTrim, Nat.add_zero]
    rw [slice_drop, slice_take, Nat.min_eq_left (by omega)]
  · -- first block from `fbo`, `m` whole blocks, `k` bytes of the last block
    obtain ⟨m, rfl⟩ : ∃ m, eb = sb + (m + 1) := ⟨eb - sb - 1, by omega⟩
    have hmul : (sb + (m + 1)) * bs = sb * bs + m * bs + bs := by rw [Nat.add_mul, Nat.succ_mul, Nat.add_assoc]
    rw [Nat.succ_mul, hmul] at r4
    obtain ⟨k, hk⟩ : ∃ k, fbo + size = m * bs + bs + k := ⟨fbo + size - (m * bs + bs), by omega⟩
    rw [lastSize_diff _ _ _ _ _ (by omega), hk, ← Nat.succ_mul, Nat.add_comm _ k, Nat.mul_comm, Nat.add_mul_mod_self_left,
      hlast k (by omega) (by omega), show sb + (m + 1) + 1 - sb = (m + 1) + 1 by omega, List.range_succ_eq_map, List.range_succ]
    simp only [List.map_cons, List.map_map, List.map_append, List.map_nil, Nat.add_zero]
    rw [joinTrim_cons_snoc, slice_drop, slice_take, Nat.min_eq_left (by omega)]
    have hmid : (List.map ((fun i => slice W ((sb + i) * bs) bs) ∘ Nat.succ) (List.range m)).flatten
        = slice W ((sb + 1) * bs) (m * bs) := by
      rw [← flatten_slices]; congr 1; apply List.map_congr_left; intro i _
      rw [Function.comp, Nat.succ_eq_add_one, Nat.add_assoc, Nat.add_comm 1 i]
    rw [hmid, show (sb + 1) * bs = sb * bs + fbo + (bs - fbo) by rw [Nat.succ_mul]; omega, slice_append_slice,
      show (sb + Nat.succ m) * bs = sb * bs + fbo + (bs - fbo + m * bs) by rw [Nat.succ_eq_add_one, hmul]; omega,
      slice_append_slice]
    congr 1; omega

end Save
end Pyctr
