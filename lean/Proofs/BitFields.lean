/-
  Bit fields in naturals: single-bit masks, field masks and packing by `|||`, brought to `/`, `%`, `+` so that `omega` decides
  the rest (it understands `<<<` and `>>>` by literals but neither `&&&` nor `|||`).
-/
namespace Pyctr

theorem and_two_pow (w i : Nat) : w &&& 2 ^ i = w / 2 ^ i % 2 * 2 ^ i := by
  rw [← Nat.toNat_testBit]
  apply Nat.eq_of_testBit_eq; intro j
  rw [Nat.testBit_and, Nat.testBit_two_pow]
  by_cases h : i = j
  · subst h; cases w.testBit i <;> simp [Nat.testBit_two_pow_self]
  · cases w.testBit i <;> simp [h, Nat.testBit_two_pow_of_ne h]

theorem toNat_and_two_pow_ne_zero (w i : Nat) : (w &&& 2 ^ i != 0).toNat = w / 2 ^ i % 2 := by
  rw [and_two_pow]
  have : w / 2 ^ i % 2 = 0 ∨ w / 2 ^ i % 2 = 1 := by omega
  rcases this with h | h <;> simp [h]

theorem or_eq_add (i : Nat) {a b : Nat} (ha : a % 2 ^ i = 0) (hb : b < 2 ^ i) : b ||| a = b + a := by
  have := Nat.two_pow_add_eq_or_of_lt hb (a / 2 ^ i)
  rw [Nat.mul_comm, Nat.div_mul_cancel (Nat.dvd_of_mod_eq_zero ha)] at this
  rw [Nat.or_comm, ← this, Nat.add_comm]

theorem or_bit (i lo : Nat) (d : Bool) (h : lo < 2 ^ i) : lo ||| d.toNat * 2 ^ i = lo + d.toNat * 2 ^ i :=
  or_eq_add i (Nat.mul_mod_left _ _) h

/-- the bound the next `or_bit` asks for -/
theorem add_bit_lt (i lo : Nat) (d : Bool) (h : lo < 2 ^ i) : lo + d.toNat * 2 ^ i < 2 ^ (i + 1) := by
  have := Nat.mul_le_mul_right (2 ^ i) d.toNat_le
  rw [Nat.one_mul] at this
  rw [Nat.pow_succ, Nat.mul_two]
  exact Nat.add_lt_add_of_lt_of_le h this

theorem add_mul_and_mask (k lo hi : Nat) (h : lo < 2 ^ k) : (lo + hi * 2 ^ k) &&& (2 ^ k - 1) = lo := by
  rw [Nat.and_two_pow_sub_one_eq_mod, Nat.add_mul_mod_self_right, Nat.mod_eq_of_lt h]

theorem add_mul_shiftRight (k lo hi : Nat) (h : lo < 2 ^ k) : (lo + hi * 2 ^ k) >>> k = hi := by
  rw [Nat.shiftRight_eq_div_pow, Nat.add_mul_div_right _ _ (Nat.two_pow_pos k), Nat.div_eq_of_lt h, Nat.zero_add]

theorem xor_split (x y A B : Nat) (hx : x < 256) (hy : y < 256) :
    (x + 256 * A) ^^^ (y + 256 * B) = (x ^^^ y) + 256 * (A ^^^ B) := by
  have hm : ∀ {x A : Nat}, x < 256 → (x + 256 * A) % 2 ^ 8 = x := fun h => by
    rw [Nat.add_mul_mod_self_left, Nat.mod_eq_of_lt h]
  have hd : ∀ {x A : Nat}, x < 256 → (x + 256 * A) / 2 ^ 8 = A := fun h => by
    rw [Nat.add_mul_div_left _ _ (by decide), Nat.div_eq_of_lt h, Nat.zero_add]
  have := Nat.div_add_mod ((x + 256 * A) ^^^ (y + 256 * B)) (2 ^ 8)
  rw [Nat.xor_mod_two_pow, Nat.xor_div_two_pow, hm hx, hm hy, hd hx, hd hy] at this
  omega

theorem ite_eq_toNat_mul (b : Bool) (c : Nat) : (if b then c else 0) = b.toNat * c := by cases b <;> simp

theorem eq_of_toNat_eq {a b : Bool} (h : a.toNat = b.toNat) : a = b := by
  cases a <;> cases b <;> first | rfl | cases h

/-- the number whose binary digits are `l` (least significant first) below those of `t` -/
def ofBits : List Bool → Nat → Nat
  | [], t => t
  | b :: r, t => b.toNat + 2 * ofBits r t

theorem ofBits_mod_two (b : Bool) (r : List Bool) (t : Nat) : ofBits (b :: r) t % 2 = b.toNat := by
  have := b.toNat_lt; rw [ofBits]; omega

theorem ofBits_div_two (b : Bool) (r : List Bool) (t : Nat) : ofBits (b :: r) t / 2 = ofBits r t := by
  have := b.toNat_lt; rw [ofBits]; omega

/-- for a list literal the side condition is found by evaluation (its type has free variables, so not by `decide`) -/
theorem ofBits_div (l : List Bool) (t i : Nat) (hi : i < l.length := by exact Nat.le_of_ble_eq_true rfl) :
    ofBits l t / 2 ^ i % 2 = (l.getD i false).toNat := by
  induction l generalizing i with
  | nil => cases hi
  | cons b r ih =>
    cases i with
    | zero => rw [Nat.pow_zero, Nat.div_one, ofBits_mod_two]; rfl
    | succ i => rw [Nat.pow_succ', ← Nat.div_div_eq_div_mul, ofBits_div_two, ih i (by simpa using hi)]; rfl

theorem ofBits_shift (l : List Bool) (t n : Nat) (hn : l.length = n := by rfl) : ofBits l t / 2 ^ n = t := by
  subst hn
  induction l with
  | nil => exact Nat.div_one t
  | cons b r ih => rw [List.length_cons, Nat.pow_succ', ← Nat.div_div_eq_div_mul, ofBits_div_two, ih]

theorem ofBits_mod (l : List Bool) (t n : Nat) (hn : l.length = n := by rfl) : ofBits l t % 2 ^ n = ofBits l 0 := by
  subst hn
  induction l with
  | nil => exact Nat.mod_one t
  | cons b r ih => rw [List.length_cons, Nat.pow_succ', Nat.mod_mul, ofBits_mod_two, ofBits_div_two, ih, ofBits]

theorem ofBits_lt (l : List Bool) (t n : Nat) (hn : l.length = n := by rfl) : ofBits l t < 2 ^ n * (t + 1) := by
  subst hn
  induction l with
  | nil => exact Nat.lt_of_lt_of_eq (Nat.lt_succ_self t) (Nat.one_mul _).symm
  | cons b r ih =>
    have := b.toNat_lt
    rw [List.length_cons, Nat.pow_succ', Nat.mul_assoc, ofBits]; omega

theorem ofBits_test (l : List Bool) (t i : Nat) (hi : i < l.length := by exact Nat.le_of_ble_eq_true rfl) :
    (ofBits l t &&& 2 ^ i != 0) = l.getD i false :=
  eq_of_toNat_eq (by rw [toNat_and_two_pow_ne_zero, ofBits_div l t i hi])

theorem exists_ofBits (n x : Nat) : ∃ (l : List Bool) (t : Nat), l.length = n ∧ x = ofBits l t := by
  induction n generalizing x with
  | zero => exact ⟨[], x, rfl, rfl⟩
  | succ n ih =>
    obtain ⟨l, t, hl, hx⟩ := ih (x / 2)
    refine ⟨decide (x % 2 = 1) :: l, t, by rw [List.length_cons, hl], ?_⟩
    rw [ofBits, ← hx]
    by_cases h : x % 2 = 1 <;> simp [h] <;> omega

theorem sum_zipIdx (bits : List Bool) (k : Nat) :
    ((bits.zipIdx k).map fun (b, i) => if b then 2 ^ i else 0).sum = 2 ^ k * ofBits bits 0 := by
  induction bits generalizing k with
  | nil => rfl
  | cons b r ih =>
    rw [List.zipIdx_cons, List.map_cons, List.sum_cons, ih, ofBits]
    show (if b then 2 ^ k else 0) + _ = _
    rw [ite_eq_toNat_mul, Nat.pow_succ, Nat.mul_add, Nat.mul_comm b.toNat, Nat.mul_assoc]

-- unfolded only through its equations: evaluating `b.toNat + 2 * …` on variables doubles the work with every digit
attribute [irreducible] ofBits

end Pyctr
