/-
  C18: `DPFSLevel3.write_data` (`dpWrite`) puts every byte of a write into the copy that the level-2 bit of its block selects
  (`scatter`) and changes nothing else.  `Win.Frame`: what every write through the partition window leaves as it was.
-/
import Proofs.SaveDpfs
namespace Pyctr
namespace Save

theorem Win.bytes_length (w : Win) : w.bytes.length = min w.size (w.F.length - w.off) := by
  unfold Win.bytes; rw [slice_length]

/-- `w` is `w0` after writes through its window.  Every write of the write path is of this kind, and the geometry conditions
    (`DpWF`, `TreeWF`, `GeomP`) read nothing of the partition but its length, so they all survive (`Win.Frame.bytes_length`) -/
structure Win.Frame (w0 w : Win) : Prop where
  off : w.off = w0.off
  size : w.size = w0.size
  flen : w.F.length = w0.F.length
  outside : ∀ z, (z < w0.off ∨ w0.off + w0.size ≤ z) → w.F[z]? = w0.F[z]?

theorem Win.Frame.refl (w : Win) : Win.Frame w w := ⟨rfl, rfl, rfl, fun _ _ => rfl⟩

theorem Win.Frame.trans {w0 w1 w2 : Win} (a : Win.Frame w0 w1) (b : Win.Frame w1 w2) : Win.Frame w0 w2 :=
  ⟨b.off.trans a.off, b.size.trans a.size, b.flen.trans a.flen,
    fun z hz => (b.outside z (by rw [a.off, a.size]; exact hz)).trans (a.outside z hz)⟩

theorem Win.Frame.bytes_length {w0 w : Win} (a : Win.Frame w0 w) : w.bytes.length = w0.bytes.length := by
  rw [Win.bytes_length, Win.bytes_length, a.off, a.size, a.flen]

theorem Win.write_spec (w : Win) (pos : Nat) (piece : Bytes) (h : pos + piece.length ≤ w.bytes.length) :
    (w.write pos piece).1 = piece.length ∧ (w.write pos piece).2.bytes = overlay w.bytes pos piece ∧
      Win.Frame w (w.write pos piece).2 := by
  have hb := w.bytes_length
  unfold Win.write
  simp only
  rw [Nat.min_eq_left (by omega), List.take_of_length_le (by omega)]
  split
  · rename_i he
    obtain rfl := List.isEmpty_iff.mp he
    exact ⟨rfl, (overlay_nil _ _ (by simpa using h)).symm, .refl w⟩
  · rename_i he
    have hpl : 0 < piece.length := List.length_pos_iff.mpr fun hc => he (by rw [hc]; rfl)
    refine ⟨rfl, ?_, { off := rfl, size := rfl, flen := overlay_length_inside _ _ _ (by omega)
                       outside := fun z hz => overlay_getElem?_outside _ _ _ _ (by omega) }⟩
    show slice (overlay w.F (w.off + pos) piece) w.off w.size = overlay (slice w.F w.off w.size) pos piece
    exact slice_overlay_window _ _ _ _ _ (by omega)

/-- state of the block loop of `DPFSLevel3.write_data` after `k` blocks: `padded = zeros(fbo) ++ data` starts at view position
    `sb * bs`; everything of it that lies in the first `k` blocks (and at or after `offset`) has been written to the copies the
    level-2 bits select; nothing else has changed -/
structure DpInv (w0 : Win) (dp : Dp) (sb : Nat) (padded : Bytes) (offset k : Nat) (w : Win) : Prop where
  off : w.off = w0.off
  size : w.size = w0.size
  flen : w.F.length = w0.F.length
  outside : ∀ z, (z < w0.off ∨ w0.off + w0.size ≤ z) → w.F[z]? = w0.F[z]?
  written : ∀ x, offset ≤ x → x < sb * dp.lv3.bs + min padded.length (k * dp.lv3.bs) →
    w.bytes[scatter dp x]? = padded[x - sb * dp.lv3.bs]?
  frame : ∀ y, (∀ x, offset ≤ x → x < sb * dp.lv3.bs + min padded.length (k * dp.lv3.bs) → y ≠ scatter dp x) →
    w.bytes[y]? = w0.bytes[y]?

theorem DpInv.win {w0 : Win} {dp : Dp} {sb : Nat} {padded : Bytes} {offset k : Nat} {w : Win}
    (h : DpInv w0 dp sb padded offset k w) : Win.Frame w0 w := ⟨h.off, h.size, h.flen, h.outside⟩

/-- the one idea of the block loop: the piece `[m, e)` of the view is stored contiguously at `base + x`, and `scatter` is
    injective, so laying the piece over the partition at `base + m` adds exactly `scatter '' [m, e)` to what has been written -/
theorem scatter_overlay (dp : Dp) (B0 B piece : Bytes) (g : Nat → Option UInt8) (a m0 m e base pos : Nat)
    (hm : m = max a m0) (hme : m + piece.length = e) (he : e ≤ dp.lv3.size) (hpos : pos = base + m)
    (hfit : pos + piece.length ≤ B.length)
    (hR : ∀ x, m ≤ x → x < e → scatter dp x = base + x) (hpiece : ∀ i, i < piece.length → piece[i]? = g (m + i))
    (hw : ∀ x, a ≤ x → x < m0 → B[scatter dp x]? = g x)
    (hf : ∀ y, (∀ x, a ≤ x → x < m0 → y ≠ scatter dp x) → B[y]? = B0[y]?) :
    (∀ x, a ≤ x → x < e → (overlay B pos piece)[scatter dp x]? = g x) ∧
    (∀ y, (∀ x, a ≤ x → x < e → y ≠ scatter dp x) → (overlay B pos piece)[y]? = B0[y]?) := by
  subst hpos
  have hout : ∀ y, (∀ x, m ≤ x → x < e → y ≠ scatter dp x) → y < base + m ∧ y < B.length ∨ base + m + piece.length ≤ y := by
    intro y hy
    by_cases h : base + m ≤ y ∧ y < base + m + piece.length
    · exact absurd (by rw [hR _ (by omega) (by omega)]; omega) (hy (y - base) (by omega) (by omega))
    · omega
  refine ⟨fun x h1 h2 => ?_, fun y hy => ?_⟩
  · by_cases hold : x < m0
    · -- written before: by injectivity it is not a position of the piece
      rw [overlay_getElem?_outside _ _ _ _ (hout _ fun x' h3 h4 heq => ?_), hw x h1 hold]
      have := scatter_inj dp x x' (by omega) (by omega) heq
      omega
    · have hmx : m ≤ x := by omega
      rw [hR x hmx h2, overlay_getElem?_inside _ _ _ _ (by omega) (by omega), Nat.add_sub_add_left,
        hpiece (x - m) (by omega), Nat.add_sub_cancel' hmx]
  · rw [overlay_getElem?_outside _ _ _ _ (hout y fun x h1 h2 => hy x (by omega) h2)]
    exact hf y fun x h1 h2 => hy x h1 (by omega)

theorem dpWriteStep_eval (dp : Dp) (sb fbo : Nat) (padded : Bytes) (tot : Nat) (w : Win) (k p : Nat) (piece : Bytes)
    (hbit : sb + k < 32 * dp.lv2bits.length)
    (hp : chunkOf dp (sb + k) + (sb + k) * dp.lv3.bs + (if k = 0 then fbo else 0) = p)
    (hpiece : (if k = 0 then (slice padded (k * dp.lv3.bs) dp.lv3.bs).drop fbo else slice padded (k * dp.lv3.bs) dp.lv3.bs) = piece)
    (hfit : p + piece.length ≤ dp.lv3.size * 2) :
    dpWriteStep dp sb fbo padded (.ok (tot, w)) k =
      .ok (tot + (w.write (dp.lv3.offset + p) piece).1, (w.write (dp.lv3.offset + p) piece).2) := by
  obtain ⟨act, hact⟩ := activeBit_isSome dp.lv2bits (sb + k) hbit
  have hc : (if act then dp.lv3.size else 0) = chunkOf dp (sb + k) := by unfold chunkOf; rw [hact]; cases act <;> simp
  unfold dpWriteStep
  simp only [hact, hpiece, hc, hp]
  rw [Nat.min_eq_left (by omega), List.take_of_length_le (by omega)]

/-- `m = max fbo (k * bs)`: block 0 skips the `fbo` filler bytes in front -/
theorem dpWriteStep_piece (padded : Bytes) (bs fbo k : Nat) (hfbo : fbo < bs) (hpl : fbo < padded.length) (hk : k * bs < padded.length)
    {m : Nat} (hm : max fbo (k * bs) = m) :
    (if k = 0 then (slice padded (k * bs) bs).drop fbo else slice padded (k * bs) bs) = slice padded m ((k + 1) * bs - m) ∧
      k * bs + (if k = 0 then fbo else 0) = m ∧
      m + (slice padded m ((k + 1) * bs - m)).length = min padded.length ((k + 1) * bs) := by
  subst hm
  have hX : max fbo (k * bs) ≤ (k + 1) * bs := Nat.max_le.mpr ⟨by rw [Nat.succ_mul]; omega, Nat.mul_le_mul_right _ (Nat.le_succ k)⟩
  have hlen : max fbo (k * bs) + (slice padded (max fbo (k * bs)) ((k + 1) * bs - max fbo (k * bs))).length =
      min padded.length ((k + 1) * bs) := by
    rw [slice_length, ← Nat.add_min_add_left, Nat.add_sub_of_le hX,
      Nat.add_sub_of_le (Nat.max_le.mpr ⟨Nat.le_of_lt hpl, Nat.le_of_lt hk⟩), Nat.min_comm]
  cases k with
  | zero => exact ⟨by simp [slice_drop], by simp, hlen⟩
  | succ k =>
    refine ⟨?_, ?_, hlen⟩
    · rw [if_neg (by omega), Nat.max_eq_right (by rw [Nat.succ_mul]; omega), Nat.succ_mul (k + 1), Nat.add_sub_cancel_left]
    · rw [if_neg (by omega), Nat.max_eq_right (by rw [Nat.succ_mul]; omega), Nat.add_zero]

theorem dpInv_step (w0 : Win) (dp : Dp) (hwf : DpWF w0.bytes dp) (sb fbo : Nat) (padded : Bytes) (k tot : Nat) (w : Win)
    (hfbo : fbo < dp.lv3.bs) (hpl : fbo < padded.length) (hin : sb * dp.lv3.bs + padded.length ≤ dp.lv3.size)
    (hk : k * dp.lv3.bs < padded.length) (hinv : DpInv w0 dp sb padded (sb * dp.lv3.bs + fbo) k w) :
    ∃ n w', dpWriteStep dp sb fbo padded (.ok (tot, w)) k = .ok (tot + n, w') ∧
      DpInv w0 dp sb padded (sb * dp.lv3.bs + fbo) (k + 1) w' ∧
      n = min padded.length ((k + 1) * dp.lv3.bs) - max fbo (k * dp.lv3.bs) := by
  have hsk : (sb + k) * dp.lv3.bs = sb * dp.lv3.bs + k * dp.lv3.bs := Nat.add_mul _ _ _
  have hk1 : (k + 1) * dp.lv3.bs = k * dp.lv3.bs + dp.lv3.bs := Nat.succ_mul _ _
  obtain ⟨hpiece, hstart, hplen⟩ := dpWriteStep_piece padded dp.lv3.bs fbo k hfbo hpl hk rfl
  generalize hpc : slice padded (max fbo (k * dp.lv3.bs)) ((k + 1) * dp.lv3.bs - max fbo (k * dp.lv3.bs)) = piece at hpiece hplen
  -- all that the arithmetic below uses of `max fbo (k * bs)` and `min padded.length ((k + 1) * bs)`
  have hE := And.intro (Nat.min_le_left padded.length ((k + 1) * dp.lv3.bs)) (Nat.min_le_right padded.length ((k + 1) * dp.lv3.bs))
  have hblk : sb + k < 32 * dp.lv2bits.length :=
    Nat.lt_of_lt_of_le ((lt_nblocks_iff _ _ _ dp.lv3.bs_pos).2 (by omega)) hwf.bits
  have hc := chunkOf_le_size dp (sb + k)
  -- the step is one write, `chunkOf (sb + k)` past where the piece starts in the view; it fits
  have hstep := dpWriteStep_eval dp sb fbo padded tot w k (chunkOf dp (sb + k) + (sb * dp.lv3.bs + max fbo (k * dp.lv3.bs)))
    piece hblk (by omega) hpiece (by omega)
  have hfit : dp.lv3.offset + (chunkOf dp (sb + k) + (sb * dp.lv3.bs + max fbo (k * dp.lv3.bs))) + piece.length ≤ w.bytes.length := by
    have := hwf.inside
    rw [hinv.win.bytes_length]; omega
  obtain ⟨s1, s2, s3⟩ := Win.write_spec w _ piece hfit
  have fr := hinv.win.trans s3
  -- and that write extends what has been written by `scatter` of the piece
  obtain ⟨hW, hF⟩ := scatter_overlay dp w0.bytes w.bytes piece _ _ _ (m := sb * dp.lv3.bs + max fbo (k * dp.lv3.bs))
    (e := sb * dp.lv3.bs + min padded.length ((k + 1) * dp.lv3.bs)) (base := dp.lv3.offset + chunkOf dp (sb + k)) _
    (by rw [Nat.min_eq_right (Nat.le_of_lt hk), Nat.add_max_add_left]) (by rw [Nat.add_assoc, hplen]) (by omega)
    (Nat.add_assoc _ _ _).symm hfit
    (fun x h1 h2 => scatter_block dp (sb + k) x (by omega) (by rw [Nat.succ_mul]; omega))
    (fun i hi => by
      rw [← hpc, slice_getElem?, if_pos (by omega)]
      exact congrArg (padded[·]?) (by rw [Nat.add_assoc, Nat.add_sub_cancel_left]))
    hinv.written hinv.frame
  rw [← s2] at hW hF
  exact ⟨_, _, hstep, { off := fr.off, size := fr.size, flen := fr.flen, outside := fr.outside, written := hW, frame := hF },
    by rw [s1, ← hplen, Nat.add_sub_cancel_left]⟩

theorem dpInv_fold (w0 : Win) (dp : Dp) (hwf : DpWF w0.bytes dp) (sb fbo : Nat) (padded : Bytes)
    (hfbo : fbo < dp.lv3.bs) (hpl : fbo < padded.length) (hin : sb * dp.lv3.bs + padded.length ≤ dp.lv3.size) :
    ∀ k, k ≤ (padded.length + dp.lv3.bs - 1) / dp.lv3.bs →
      ∃ w, (List.range k).foldl (dpWriteStep dp sb fbo padded) (.ok (0, w0)) =
          .ok (min padded.length (k * dp.lv3.bs) - fbo, w) ∧
        DpInv w0 dp sb padded (sb * dp.lv3.bs + fbo) k w := by
  have hbs := dp.lv3.bs_pos
  intro k
  induction k with
  | zero =>
    intro _
    refine ⟨w0, by simp, { off := rfl, size := rfl, flen := rfl, outside := fun _ _ => rfl, frame := fun _ _ => rfl, written := ?_ }⟩
    intro x h1 h2
    simp only [Nat.zero_mul, Nat.min_zero, Nat.add_zero] at h2
    omega
  | succ k ih =>
    intro hk
    obtain ⟨w, hf, hinv⟩ := ih (by omega)
    have hklt : k * dp.lv3.bs < padded.length := (lt_nblocks_iff padded.length dp.lv3.bs k hbs).1 hk
    obtain ⟨n, w', hstep, hinv', hn⟩ := dpInv_step w0 dp hwf sb fbo padded k
      (min padded.length (k * dp.lv3.bs) - fbo) w hfbo hpl hin hklt hinv
    refine ⟨w', ?_, hinv'⟩
    rw [List.range_succ, List.foldl_append, hf]
    simp only [List.foldl_cons, List.foldl_nil]
    rw [hstep, hn]
    congr 2
    have hk1 : (k + 1) * dp.lv3.bs = k * dp.lv3.bs + dp.lv3.bs := Nat.succ_mul _ _
    rcases Nat.eq_zero_or_pos k with rfl | h0
    · rw [Nat.zero_mul, Nat.min_zero, Nat.max_zero, Nat.zero_sub, Nat.zero_add]
    · have : dp.lv3.bs ≤ k * dp.lv3.bs := Nat.le_mul_of_pos_left _ h0
      rw [Nat.max_eq_right (by omega : fbo ≤ k * dp.lv3.bs), Nat.min_eq_right (by omega : k * dp.lv3.bs ≤ padded.length)]
      omega

/-- the invariant after the last block, with the padding taken off -/
theorem dpWrite_spec (w0 : Win) (dp : Dp) (hwf : DpWF w0.bytes dp) (offset : Nat) (data : Bytes) (hne : data ≠ [])
    (hin : offset + data.length ≤ dp.lv3.size) :
    ∃ w', dpWrite w0 dp offset data = .ok (data.length, w') ∧ Win.Frame w0 w' ∧
      (∀ x, offset ≤ x → x < offset + data.length → w'.bytes[scatter dp x]? = data[x - offset]?) ∧
      (∀ y, (∀ x, offset ≤ x → x < offset + data.length → y ≠ scatter dp x) → w'.bytes[y]? = w0.bytes[y]?) := by
  have hbs := dp.lv3.bs_pos
  have hdl : 0 < data.length := List.length_pos_iff.mpr hne
  have hdm := Nat.div_add_mod offset dp.lv3.bs
  have hmod := Nat.mod_lt offset hbs
  have hoff : offset / dp.lv3.bs * dp.lv3.bs + offset % dp.lv3.bs = offset := by rw [Nat.mul_comm]; exact hdm
  have hplen : (zeros (offset % dp.lv3.bs) ++ data).length = offset % dp.lv3.bs + data.length := by simp
  obtain ⟨w', hf, hinv⟩ := dpInv_fold w0 dp hwf (offset / dp.lv3.bs) (offset % dp.lv3.bs) (zeros (offset % dp.lv3.bs) ++ data)
    hmod (by rw [hplen]; omega) (by rw [hplen]; omega) _ (Nat.le_refl _)
  have hcover : (zeros (offset % dp.lv3.bs) ++ data).length ≤
      ((zeros (offset % dp.lv3.bs) ++ data).length + dp.lv3.bs - 1) / dp.lv3.bs * dp.lv3.bs := le_nblocks_mul _ _ hbs
  rw [hoff] at hinv
  refine ⟨w', ?_, hinv.win, ?_, ?_⟩
  · unfold dpWrite
    have hclamp : (if offset + data.length > dp.lv3.size then data.take (dp.lv3.size - offset) else data) = data :=
      if_neg (by omega)
    have he : data.isEmpty = false := by cases data with | nil => exact absurd rfl hne | cons a r => rfl
    simp only [hclamp, he, Bool.false_eq_true, if_false]
    rw [hf]
    congr 2
    rw [Nat.min_eq_left hcover, hplen, Nat.add_sub_cancel_left]
  · intro x h1 h2
    have := hinv.written x h1 (by rw [Nat.min_eq_left hcover, hplen]; omega)
    rw [this]
    have hx : x - offset / dp.lv3.bs * dp.lv3.bs = offset % dp.lv3.bs + (x - offset) := by omega
    rw [hx, List.getElem?_append_right (by simp), zeros_length]
    congr 1; omega
  · intro y hy
    exact hinv.frame y (fun x h1 h2 => hy x h1 (by rw [Nat.min_eq_left hcover, hplen] at h2; omega))

/-- `scatter` is injective and `dpfsView` reads byte `x` at `scatter x`, so the data is laid over the view -/
theorem dpWrite_view (w0 : Win) (dp : Dp) (hwf : DpWF w0.bytes dp) (offset : Nat) (data : Bytes) (hne : data ≠ [])
    (hin : offset + data.length ≤ dp.lv3.size) (w' : Win) (n : Nat) (h : dpWrite w0 dp offset data = .ok (n, w')) :
    n = data.length ∧ Win.Frame w0 w' ∧ dpfsView w'.bytes dp = overlay (dpfsView w0.bytes dp) offset data ∧
      (∀ y, (y < dp.lv3.offset ∨ dp.lv3.offset + dp.lv3.size * 2 ≤ y) → w'.bytes[y]? = w0.bytes[y]?) := by
  obtain ⟨w1, h1, fr, h6, h7⟩ := dpWrite_spec w0 dp hwf offset data hne hin
  rw [h1] at h
  simp only [Except.ok.injEq, Prod.mk.injEq] at h
  obtain ⟨hn, hw⟩ := h
  subst hw
  have hwf' : DpWF w1.bytes dp := hwf.of_length fr.bytes_length
  refine ⟨hn.symm, fr, ?_, ?_⟩
  · apply List.ext_getElem?
    intro x
    by_cases hx : x < dp.lv3.size
    · rw [dpfsView_scatter _ _ hwf' x hx]
      by_cases hr : offset ≤ x ∧ x < offset + data.length
      · rw [overlay_getElem?_inside _ _ _ _ hr.1 hr.2]
        exact h6 x hr.1 hr.2
      · rw [overlay_getElem?_outside _ _ _ _ (by rw [dpfsView_length _ _ hwf]; omega), dpfsView_scatter _ _ hwf x hx]
        exact h7 (scatter dp x) fun x' a b hc => by
          have := scatter_inj dp x x' hx (by omega) hc
          omega
    · rw [List.getElem?_eq_none (by rw [dpfsView_length _ _ hwf']; omega),
        List.getElem?_eq_none (by rw [overlay_length_inside _ _ _ (by rw [dpfsView_length _ _ hwf]; exact hin), dpfsView_length _ _ hwf]; omega)]
  · intro y hy
    apply h7
    intro x a b hc
    have := scatter_range dp x (by omega)
    omega

end Save
end Pyctr
