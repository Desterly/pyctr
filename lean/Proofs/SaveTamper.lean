/-
  The hash chain: validity looks only upwards (`specValid_congr`), `chainOK` through its two equations, tamper evidence
  (`chain_tamper`).
-/
import Proofs.BytesLemmas
import PyctrModel.Save.Spec
namespace Pyctr
theorem slot_in_block (b k bs : Nat) (hbs : 0 < bs) (hdiv : k ∣ bs) : (b * k) % bs + k ≤ bs := by
  obtain ⟨m, rfl⟩ := hdiv
  obtain ⟨j, hj⟩ : k ∣ (b * k) % (k * m) := (Nat.dvd_mod_iff ⟨m, rfl⟩).2 (Nat.dvd_mul_left _ _)
  have hr := Nat.mod_lt (b * k) hbs
  rw [hj] at hr ⊢
  have : j < m := Nat.lt_of_mul_lt_mul_left hr
  have : k * (j + 1) ≤ k * m := Nat.mul_le_mul_left _ (by omega)
  exact this

namespace Save
variable (H : Bytes → Bytes) (bsOf : Nat → Nat) (master : List Bytes)

theorem specValid_congr (L L' : Nat → Bytes) : ∀ (deep : Bool) (idx b : Nat), (∀ j, j ≤ idx → L' j = L j) →
    specValid H (rdOf L') bsOf master deep idx b = specValid H (rdOf L) bsOf master deep idx b
  | deep, 0, b, hl => by simp only [specValid, rdOf, hl 0 (Nat.le_refl _)]
  | deep, up + 1, b, hl => by
    rw [specValid, specValid]
    simp only [rdOf, hl (up + 1) (Nat.le_refl _), hl up (by omega), specValid_congr L L' true up _ (fun j hj => hl j (by omega))]

theorem verifiedView_congr (L L' : Nat → Bytes)
    (h : ∀ j, j ≤ 3 → L' j = L j) : verifiedView H L' bsOf master = verifiedView H L bsOf master := by
  unfold verifiedView
  rw [h 3 (Nat.le_refl _)]
  congr 1
  funext b
  unfold verifiedBlock
  rw [h 3 (Nat.le_refl _), specValid_congr H bsOf master L L' true 3 b h]

theorem chainOK_congr (L L' : Nat → Bytes) (idx b : Nat) (hl : ∀ j, j ≤ idx → L' j = L j) :
    chainOK H bsOf master L' idx b ↔ chainOK H bsOf master L idx b := by
  unfold chainOK; rw [specValid_congr H bsOf master L L' true idx b hl]

theorem chainOK_zero (L : Nat → Bytes) (b : Nat) :
    chainOK H bsOf master L 0 b ↔ master[b]? = some (H (padBlock bsOf L 0 b)) := by
  unfold chainOK
  simp only [specValid, rdOf, padBlock]
  cases master[b]? <;> simp   -- `none`: no master hash for the block, `IndexError`

theorem chainOK_succ (L : Nat → Bytes) (up b : Nat) :
    chainOK H bsOf master L (up + 1) b ↔
      chainOK H bsOf master L up (b * 0x20 / bsOf up) ∧ slice (L up) (b * 0x20) 0x20 = H (padBlock bsOf L (up + 1) b) ∧
        slice (L up) (b * 0x20) 0x20 ≠ zeros 0x20 := by
  unfold chainOK
  rw [specValid]
  simp only [rdOf, if_true, padBlock]
  cases specValid H (rdOf L) bsOf master true up (b * 0x20 / bsOf up) with
  | error e => simp
  | ok uv =>
    by_cases huv : uv = some true
    · subst huv
      -- the block above verifies: the verdict is the comparison with the stored hash …
      -- … unless that is all zero, which reads as "uninitialised" (`none`)
      by_cases hz : slice (L up) (b * 0x20) 0x20 = zeros 0x20 <;> simp [hz]
    · -- the verdict of the block above is passed on
      simp [huv]

theorem verifiedBlock_of_chainOK (L : Nat → Bytes) (b : Nat) (h : chainOK H bsOf master L 3 b) :
    verifiedBlock H L bsOf master b = slice (L 3) (b * bsOf 3) (bsOf 3) := by
  unfold chainOK at h
  unfold verifiedBlock
  simp only [h]

theorem verifiedBlock_of_not_chainOK (L : Nat → Bytes) (b : Nat) (h : ¬ chainOK H bsOf master L 3 b) :
    verifiedBlock H L bsOf master b = List.replicate (slice (L 3) (b * bsOf 3) (bsOf 3)).length 0xDD := by
  unfold verifiedBlock
  split
  · rename_i hv; exact absurd hv h
  · rfl

theorem verifiedBlock_length (L : Nat → Bytes) (b : Nat) :
    (verifiedBlock H L bsOf master b).length = (slice (L 3) (b * bsOf 3) (bsOf 3)).length := by
  by_cases h : chainOK H bsOf master L 3 b
  · rw [verifiedBlock_of_chainOK H bsOf master L b h]
  · rw [verifiedBlock_of_not_chainOK H bsOf master L b h, List.length_replicate]

theorem ljustZero_inj (a b : Bytes) (n : Nat) (hl : a.length = b.length) (h : ljustZero a n = ljustZero b n) : a = b := by
  exact (List.append_inj h hl).1

/-- **tamper evidence**, any level.  Induction up the chain: the blocks above agree (or collide), so the two hash slots, which lie
    inside one block above (`slot_in_block`), are equal, and equal hashes of the zero-padded blocks mean equal blocks or a collision -/
theorem chain_tamper (L L' : Nat → Bytes) (hlen : ∀ i, (L i).length = (L' i).length) (idx : Nat) :
    (∀ up, up < idx → 0 < bsOf up ∧ 0x20 ∣ bsOf up) → ∀ b, chainOK H bsOf master L idx b → chainOK H bsOf master L' idx b →
    slice (L idx) (b * bsOf idx) (bsOf idx) = slice (L' idx) (b * bsOf idx) (bsOf idx) ∨ Collision H := by
  have fin : ∀ idx b, H (padBlock bsOf L idx b) = H (padBlock bsOf L' idx b) →
      slice (L idx) (b * bsOf idx) (bsOf idx) = slice (L' idx) (b * bsOf idx) (bsOf idx) ∨ Collision H := by
    intro idx b e
    by_cases heq : padBlock bsOf L idx b = padBlock bsOf L' idx b
    · exact .inl (ljustZero_inj _ _ _ (by rw [slice_length, slice_length, hlen]) heq)
    · exact .inr ⟨_, _, heq, e⟩
  induction idx with
  | zero =>
    intro _ b h h'
    rw [chainOK_zero] at h h'
    exact fin 0 b (Option.some.inj (h.symm.trans h'))
  | succ up ih =>
    intro hdiv b h h'
    obtain ⟨hu, hs, _⟩ := (chainOK_succ ..).1 h
    obtain ⟨hu', hs', _⟩ := (chainOK_succ ..).1 h'
    rcases ih (fun u hu => hdiv u (by omega)) _ hu hu' with hup | hcol
    · have hr := slot_in_block b 0x20 (bsOf up) (hdiv up (by omega)).1 (hdiv up (by omega)).2
      rw [slice_of_block _ _ _ _ hr] at hs hs'
      exact fin (up + 1) b (by rw [← hs, ← hs', hup])
    · exact .inr hcol

end Save
end Pyctr
