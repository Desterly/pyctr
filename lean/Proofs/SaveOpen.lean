/-
  `open` of a DISA / DIFF container: either kind read as magic check, table-hash check and partition loading over what the
  header says (`hdrView`, `openCont_ok_iff`); storing the table hash changes nothing else `open` reads (`hdrView_assign`).
-/
import Proofs.DescRoundtrip
namespace Pyctr
namespace Save
variable (H : Bytes → Bytes)

theorem loadPartition_inv (F : Bytes) (index descOff : Nat) (pd : Bytes) (pOff pSize : Nat) (p0 : PartSt)
    (h : loadPartition F index descOff pd pOff pSize = .ok p0) :
    ∃ d, loadPartdesc pd = .ok d ∧
      p0 = ⟨index, descOff, pd.length, pOff, pSize, d.difi, d.ivfc, d.dpfs, d.master,
        mkDp (slice F pOff pSize) d.dpfs d.difi.selector, Caches.empty, 0⟩ := by
  revert h
  fun_cases loadPartition F index descOff pd pOff pSize
  case case1 => exact fun h => nomatch h
  case case2 d hd => exact fun h => ⟨d, hd, (Except.ok.inj h).symm⟩

theorem loadPartition_ok (F : Bytes) (index descOff : Nat) (pd : Bytes) (pOff pSize : Nat) (d : PartDesc)
    (h : loadPartdesc pd = .ok d) :
    loadPartition F index descOff pd pOff pSize = .ok ⟨index, descOff, pd.length, pOff, pSize, d.difi, d.ivfc, d.dpfs, d.master,
      mkDp (slice F pOff pSize) d.dpfs d.difi.selector, Caches.empty, 0⟩ := by
  unfold loadPartition; rw [h]

/-- a partition as the header lists it: where its descriptor lies in the table and where its window lies in the file -/
structure PartEntry where
  descOff : Nat
  descSize : Nat
  pOff : Nat
  pSize : Nat

/-- what `open` reads out of a header: where the table hash sits, the active table, and the partitions -/
structure HdrView where
  hoff : Nat
  tableOff : Nat
  tableSize : Nat
  parts : List PartEntry

def hdrView : Kind → Bytes → HdrView
  | .diff, h => ⟨0x34, diffDescOff h, le h 0x18 8, [⟨0, le h 0x18 8, le h 0x20 8, le h 0x28 8⟩]⟩
  | .disa, h => ⟨0x6C, disaTableOff h, le h 0x20 8,
      ⟨le h 0x28 8, le h 0x30 8, le h 0x48 8, le h 0x50 8⟩ ::
        if le h 0x8 4 = 2 then [⟨le h 0x38 8, le h 0x40 8, le h 0x58 8, le h 0x60 8⟩] else []⟩

def magicOf : Kind → Bytes
  | .diff => diffMagic
  | .disa => disaMagic

def loadParts (F table : Bytes) : Nat → List PartEntry → Except Err (List PartSt)
  | _, [] => .ok []
  | j, e :: r =>
    match loadPartition F j e.descOff (slice table e.descOff e.descSize) e.pOff e.pSize with
    | .error e => .error e
    | .ok p => match loadParts F table (j + 1) r with
      | .error e => .error e
      | .ok ps => .ok (p :: ps)

theorem openCont_ok_iff (k : Kind) (F : Bytes) (w : Bool) (c0 : Cont) {h : Bytes} (hh : slice F 0x100 0x100 = h) {v : HdrView}
    (hv : hdrView k h = v) :
    openCont H k F w = .ok c0 ↔
      slice h 0 8 = magicOf k ∧ H (slice F v.tableOff v.tableSize) = slice h v.hoff 0x20 ∧
      ∃ ps, loadParts F (slice F v.tableOff v.tableSize) 0 v.parts = .ok ps ∧ c0 = ⟨k, F, h, v.tableOff, v.tableSize, ps, w⟩ := by
  subst hv
  -- a branch of the model that fails: one of the three conditions on the right fails too
  have dead : ∀ {e : Err} {P : Prop}, ¬ P → ((Except.error e : Except Err Cont) = .ok c0 ↔ P) :=
    fun hP => iff_of_false (fun h => nomatch h) hP
  -- a branch that succeeds with the partitions `ps`: the three conditions hold, with `ps`
  have live : ∀ (mk : List PartSt → Cont) {ps : List PartSt} {T : Bytes} {l : List PartEntry} {A B : Prop}, A → B →
      loadParts F T 0 l = .ok ps →
      ((Except.ok (mk ps) : Except Err Cont) = .ok c0 ↔ A ∧ B ∧ ∃ ps', loadParts F T 0 l = .ok ps' ∧ c0 = mk ps') := by
    intro mk ps T l A B hA hB hps
    exact ⟨fun ho => ⟨hA, hB, ps, hps, (Except.ok.inj ho).symm⟩,
      fun ⟨_, _, ps', hps', hc⟩ => by rw [hc, Except.ok.inj (hps.symm.trans hps')]⟩
  cases k with
  | diff =>
    -- the one descriptor of a DIFF is its whole table
    have hs : slice (slice F (diffDescOff h) (le h 0x18 8)) 0 (le h 0x18 8) = slice F (diffDescOff h) (le h 0x18 8) :=
      slice_all _ _ (by rw [slice_length]; omega)
    simp only [openCont, openDiff, hh, hdrView, magicOf]
    split
    · next hm => exact dead fun h => hm h.1
    split
    · next hd => exact dead fun h => hd h.2.1
    next hm hd =>
    split
    · next e hl => exact dead fun ⟨_, _, ps, hps, _⟩ => by simp only [loadParts, hs, hl] at hps; exact nomatch hps
    · next p hl =>
      refine live (fun ps => ⟨.diff, F, h, _, _, ps, w⟩) (ps := [p]) (Classical.not_not.mp hm) (Classical.not_not.mp hd) ?_
      simp only [loadParts, hs, hl]
  | disa =>
    simp only [openCont, openDisa, hh, hdrView, magicOf]
    split
    · -- wrong magic (an all-zero header is reported as unformatted)
      next hm => split <;> exact dead fun h => hm h.1
    split
    · next hd => exact dead fun h => hd h.2.1
    next hm hd =>
    split
    · next e hla => exact dead fun ⟨_, _, ps, hps, _⟩ => by simp only [loadParts, hla] at hps; exact nomatch hps
    next pa hla =>
    split
    · next h2 =>
      split
      · next e hlb => exact dead fun ⟨_, _, ps, hps, _⟩ => by simp only [loadParts, hla, hlb] at hps; exact nomatch hps
      · next pb hlb =>
        refine live (fun ps => ⟨.disa, F, h, _, _, ps, w⟩) (ps := [pa, pb]) (Classical.not_not.mp hm) (Classical.not_not.mp hd) ?_
        simp only [loadParts, hla, hlb]
    · next h2 =>
      refine live (fun ps => ⟨.disa, F, h, _, _, ps, w⟩) (ps := [pa]) (Classical.not_not.mp hm) (Classical.not_not.mp hd) ?_
      simp only [loadParts, hla]

theorem loadParts_inv (F T : Bytes) (l : List PartEntry) (j : Nat) (ps : List PartSt)
    (h : loadParts F T j l = .ok ps) : ps.length = l.length ∧ ∀ i e q, l[i]? = some e → ps[i]? = some q →
      loadPartition F (j + i) e.descOff (slice T e.descOff e.descSize) e.pOff e.pSize = .ok q := by
  fun_induction loadParts F T j l generalizing ps
  case case1 =>
    obtain rfl : [] = ps := Except.ok.inj h
    exact ⟨rfl, fun i e q he => by cases he⟩
  case case4 j e r p0 hp0 ps0 hps0 ih =>
    obtain rfl : p0 :: ps0 = ps := Except.ok.inj h
    obtain ⟨a, b⟩ := ih ps0 hps0
    refine ⟨by rw [List.length_cons, List.length_cons, a], fun i e q he hq => ?_⟩
    cases i with
    | zero =>
      obtain rfl := Option.some.inj he
      obtain rfl := Option.some.inj hq
      exact hp0
    | succ i =>
      have := b i e q he hq
      rwa [show j + 1 + i = j + (i + 1) by omega] at this
  all_goals exact nomatch h

theorem loadParts_exists (F T : Bytes) (R : Nat → PartSt → Prop) : ∀ (l : List PartEntry) (j : Nat),
    (∀ i e, l[i]? = some e → ∃ q0, loadPartition F (j + i) e.descOff (slice T e.descOff e.descSize) e.pOff e.pSize = .ok q0 ∧ R (j + i) q0) →
    ∃ ps, loadParts F T j l = .ok ps ∧ ps.length = l.length ∧ ∀ i q0, ps[i]? = some q0 → R (j + i) q0 := by
  intro l
  induction l with
  | nil => intro j _; exact ⟨[], rfl, rfl, fun i q0 h => by simp at h⟩
  | cons e r ih =>
    intro j h
    obtain ⟨q0, hq0, hR⟩ := h 0 e rfl
    obtain ⟨ps, hps, hl, hall⟩ := ih (j + 1) fun i e' he' => by
      have := h (i + 1) e' he'
      rwa [show j + (i + 1) = j + 1 + i by omega] at this
    refine ⟨q0 :: ps, ?_, by simp [hl], fun i q hq => ?_⟩
    · simp only [loadParts]
      rw [Nat.add_zero] at hq0
      rw [hq0, hps]
    · cases i with
      | zero => simp only [List.getElem?_cons_zero, Option.some.injEq] at hq; subst hq; exact hR
      | succ i =>
        have := hall i q hq
        rwa [show j + 1 + i = j + (i + 1) by omega] at this

theorem hdrView_assign (k : Kind) (h dg : Bytes) (hl : h.length = 0x100) (hd : dg.length = 0x20) :
    hdrView k (assign h (hdrView k h).hoff dg) = hdrView k h ∧
      slice (assign h (hdrView k h).hoff dg) 0 8 = slice h 0 8 ∧
      slice (assign h (hdrView k h).hoff dg) (hdrView k h).hoff 0x20 = dg := by
  -- every field `open` reads ends at or before the hash field (0x34 in a DIFF header, 0x6C in a DISA header)
  have key : ∀ hoff b n, hoff + 0x20 ≤ 0x100 → b + n ≤ hoff → slice (assign h hoff dg) b n = slice h b n :=
    fun hoff b n h1 h2 => (assign_spec h hoff dg (by omega)).2.2 b n (Or.inl h2)
  have inside : ∀ hoff, hoff + 0x20 ≤ 0x100 → slice (assign h hoff dg) hoff 0x20 = dg := fun hoff h1 => by
    have := (assign_spec h hoff dg (by omega)).2.1; rwa [hd] at this
  cases k with
  | diff =>
    refine ⟨?_, key 0x34 0 8 (by omega) (by omega), inside 0x34 (by omega)⟩
    simp (disch := omega) only [hdrView, diffDescOff, le, key]
    rfl
  | disa =>
    refine ⟨?_, key 0x6C 0 8 (by omega) (by omega), inside 0x6C (by omega)⟩
    have hb : (assign h 0x6C dg).getD 0x68 0 = h.getD 0x68 0 := by
      rw [List.getD_eq_getElem?_getD, List.getD_eq_getElem?_getD, assign_eq_overlay _ _ _ (by omega),
        overlay_getElem?_outside _ _ _ _ (Or.inl ⟨by omega, by omega⟩)]
    simp (disch := omega) only [hdrView, disaTableOff, le, hb, key]
    rfl

end Save
end Pyctr
