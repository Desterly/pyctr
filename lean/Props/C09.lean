/-
  C09 — every sub-file view is confined to its window and obeys basic file semantics.

  Model: PyctrModel/IO/Subsection.lean (`Sub` = SubsectionIO), PyctrModel/IO/Merger.lean (`Merger` = SplitFileMerger,
  CloseWrapper, the reader open files), PyctrModel/Base/PyFile.lean (io.BytesIO), PyctrModel/Base/AFile.lean (the ordinary
  file `AFile`, and `IsReadable` / `IsReadOnly` / `IsFileW` / `IsFile`: what refining it means).
-/
import Proofs.AFileLemmas
import Proofs.CtrRefines
import Proofs.MergerRefines
import Proofs.Sim
import Proofs.SubRefines
namespace Pyctr.C09
variable {σ : Type} {F : FileOps σ} {inv : σ → Prop} {abs : σ → AFile}

/-- io.BytesIO (as modelled) is an ordinary growable file. -/
theorem C09_bytesio_refines : IsFile PyFile.ops (fun _ => True) PyFile.abs := pyfile_isFile

/-- SubsectionIO over anything that behaves like a file behaves like a fixed-size file whose content is the window, for all
    integer read sizes, seek offsets, whence values and write lengths. -/
theorem C09_sub_refines (hF : IsFileW F inv abs) :
    IsFile (Sub.ops F) (Sub.invSub inv abs) (Sub.absSub abs) := Sub.sub_isFile hF

/-- closure under stacking: a window on a window on a BytesIO -/
theorem C09_stack :
    IsFile (Sub.ops (Sub.ops PyFile.ops))
      (Sub.invSub (Sub.invSub (fun _ => True) PyFile.abs) (Sub.absSub PyFile.abs))
      (Sub.absSub (Sub.absSub PyFile.abs)) := C09_sub_refines (C09_sub_refines C09_bytesio_refines.toIsFileW).toIsFileW

/-- every history: outputs equal those of the ordinary file, for any operation list -/
theorem C09_history (hF : IsFile F inv abs) (ops : List Op) (s : σ) (h : inv s) :
    (F.run s ops).1 = (AFile.ops.run (abs s) ops).1 ∧
    abs (F.run s ops).2 = (AFile.ops.run (abs s) ops).2 ∧ inv (F.run s ops).2 :=
  run_refines (G := fun _ _ => True) (fun s _ _ h _ => ⟨fun w _ => hF.write s w h, trivial⟩) hF.toIsReadable ops s h trivial

/-- frame: a read through a window changes no byte of the inner file outside the window … -/
theorem C09_read_frame (hF : IsReadable F inv abs) (s : Sub σ) (n : Int) (h : Sub.invSub inv abs s) :
    ∃ s', Sub.read F s n = .ok (((Sub.absSub abs s).read n).1, s') ∧ Sub.Frame abs s s' := by
  obtain ⟨s', a, _, _, f⟩ := Sub.read_refines hF s n h; exact ⟨s', a, f⟩

/-- … and neither does a write, whatever its length. -/
theorem C09_write_frame (hF : IsFileW F inv abs) (s : Sub σ) (w : Bytes) (h : Sub.invSub inv abs s) :
    ∃ s', Sub.write F s w = .ok (((Sub.absSub abs s).write w).1, s') ∧ Sub.Frame abs s s' := by
  obtain ⟨s', a, _, _, f⟩ := Sub.write_refines hF s w h; exact ⟨s', a, f⟩

/-- the property's words, on the specification: a read returns at most `n` bytes (all remaining for `n < 0`), taken from `pos`,
    never past the end, and the position advances by the number returned. -/
theorem C09_confined (f : AFile) (n : Int) :
    (f.read n).1 = slice f.content f.pos (f.read n).1.length ∧
    (0 ≤ n → ((f.read n).1.length : Int) ≤ n) ∧
    (n < 0 → (f.read n).1.length = f.content.length - f.pos) ∧
    f.pos + (f.read n).1.length ≤ max f.pos f.content.length ∧
    (f.read n).2.pos = f.pos + (f.read n).1.length := by
  have hr := AFile.readLen_le f n
  rw [AFile.read_fst_length]
  refine ⟨rfl, fun hn => ?_, fun hn => ?_, by omega, rfl⟩
  · rw [AFile.readLen_eq, if_neg (by omega)]; omega
  · rw [AFile.readLen_eq, if_pos hn]

/-- a write to a window stores at most the bytes that fit and reports that number; the size never changes -/
theorem C09_write_fixed (f : AFile) (w : Bytes) (hf : f.fixed = true) :
    (f.write w).1 = min w.length (f.content.length - f.pos) ∧
    (f.write w).2.content.length = f.content.length := by
  refine ⟨?_, AFile.write_length_fixed f w hf⟩
  rw [AFile.write_fst, AFile.writeTake, if_pos hf, List.length_take, Nat.min_comm]; rfl

/-- positions: absolute seeks inside the window land exactly; relative seeks move by the signed amount, floor 0 -/
theorem C09_positions (f : AFile) (off : Int) :
    (0 ≤ off → off ≤ f.content.length → f.seek off 0 = .ok (off.toNat, { f with pos := off.toNat })) ∧
    (f.seek off 1 = .ok (((f.pos : Int) + off).toNat, { f with pos := ((f.pos : Int) + off).toNat })) ∧
    (off < 0 → f.seek off 0 = .error .valueError) := by
  refine ⟨fun h0 h1 => ?_, f.seek_cur off, fun h => ?_⟩
  · obtain ⟨m, rfl⟩ := Int.eq_ofNat_of_zero_le h0
    exact f.seek_set m (Int.ofNat_le.mp h1)
  · rw [AFile.seek_eq, AFile.seekPos, if_pos rfl, if_pos h]; rfl

/-- SplitFileMerger of readable parts reads like one ordinary (unclamped, read-only) file holding the parts' first `size` bytes
    in order, for any integer read size and any seek, and never writes -/
theorem C09_merger_refines (hF : IsReadable F inv abs) :
    IsReadOnly (Merger.ops F) (Merger.invM inv abs) (Merger.absM abs) :=
  { toIsReadable := .of_sim (fun m n h => simG_opRel_ok.mpr (Merger.read_refines hF m n h))
      -- a seek lands where `seekPos` says from total size and position; `calcSeek` then only picks the part
      (fun m off wh h => by
        have := sim_seekPos (inv := Merger.invM inv abs) (abs := Merger.absM abs) m (Merger.calcSeek m) off wh fun p =>
          ⟨by simp only [Merger.absM, Merger.calcSeek_fake, Merger.calcSeek_files], Merger.calcSeek_inv m p h⟩
        rw [Merger.absM_len m h] at this
        show SimG _ (Merger.seekOp m off wh) _
        rw [Merger.seekOp_eq]
        exact this)
      (fun m h => ⟨(m.fake, m), rfl, rfl, rfl, h⟩)
    write := fun _ _ _ => Or.inl ⟨_, rfl⟩ }

/-- a freshly constructed merger satisfies the invariant -/
theorem C09_merger_init (parts : List (σ × Nat)) (hp : ∀ p ∈ parts, inv p.1 ∧ p.2 ≤ (abs p.1).content.length) :
    Merger.invM inv abs (Merger.create parts) := by
  obtain ⟨w, ok, tot⟩ := Merger.mkSegs_spec parts 0 hp
  refine ⟨⟨w, ok⟩, tot, fun hlt => ?_⟩
  -- position 0 lies in the first part (possibly of size 0)
  cases parts with
  | nil => exact absurd hlt (Nat.lt_irrefl 0)
  | cons a t => exact ⟨Nat.zero_lt_succ _, Nat.le_refl 0, Nat.zero_le _⟩

/-- CloseWrapper is pure delegation: whatever the wrapped object refines, the wrapper refines too -/
theorem C09_closewrapper_refines (hF : IsFile F inv abs) : IsFile (closeWrapperOps F) inv abs :=
  { toIsReadable := closeWrapper_isReadable hF.toIsReadable, write := hF.write }

/-- reader open files (`_ReaderOpenFileBase` over an in-memory entry): every read, of any integer size, is that of a fixed-size
    file holding the data … -/
theorem C09_openfile_read (f : OpenFile) (n : Int) :
    OpenFile.ops.read f n = .ok (((OpenFile.absO f).read n).1, (f.read n).2) ∧
    OpenFile.absO (f.read n).2 = ((OpenFile.absO f).read n).2 := by
  refine ⟨congrArg Except.ok (Prod.ext ?_ rfl), ?_⟩
  · show (f.read n).1 = _
    rw [OpenFile.read_eq]; rfl
  · rw [OpenFile.read_eq]; rfl

/-- … and so are seeks with whence 0/1/2 (other whence values are silently ignored by the code, where an ordinary file raises;
    they are outside the property's quantifier) -/
theorem C09_openfile_seek (f : OpenFile) (off wh : Int) (hwh : wh = 0 ∨ wh = 1 ∨ wh = 2) :
    (match OpenFile.seekOp f off wh with
     | .error e => (OpenFile.absO f).seek off wh = .error e
     | .ok (p, f') => (OpenFile.absO f).seek off wh = .ok (p, OpenFile.absO f')) := by
  have e : (OpenFile.absO f).seek off wh =
      (AFile.seekPos f.data.length f.seek true off wh).map fun p => (p, OpenFile.absO { f with seek := p }) :=
    AFile.seek_eq _ off wh
  rw [OpenFile.seekOp_eq f off wh hwh, e]
  cases AFile.seekPos f.data.length f.seek true off wh <;> rfl

/-- crypto wrappers stacked on windows, and a window on a CTR wrapper on a window (the NAND shape):
    closure under stacking is just composition of the refinement theorems -/
theorem C09_stack_nand (E : Bytes → Bytes) :
    IsFile (Sub.ops (CtrIO.ops (Sub.ops PyFile.ops) E))
      (Sub.invSub (CtrIO.invCtr (Sub.invSub (fun _ => True) PyFile.abs) (Sub.absSub PyFile.abs))
        (CtrIO.absCtr E (Sub.absSub PyFile.abs)))
      (Sub.absSub (CtrIO.absCtr E (Sub.absSub PyFile.abs))) :=
  C09_sub_refines (CtrIO.ctr_isFile_of_fixed E (C09_sub_refines C09_bytesio_refines.toIsFileW).toIsFileW fun _ _ => rfl).toIsFileW

theorem C09_stack_merged (E : Bytes → Bytes) :
    IsReadOnly (Merger.ops (Sub.ops (CtrIO.ops (Sub.ops PyFile.ops) E)))
      (Merger.invM (Sub.invSub (CtrIO.invCtr (Sub.invSub (fun _ => True) PyFile.abs) (Sub.absSub PyFile.abs))
        (CtrIO.absCtr E (Sub.absSub PyFile.abs))) (Sub.absSub (CtrIO.absCtr E (Sub.absSub PyFile.abs))))
      (Merger.absM (Sub.absSub (CtrIO.absCtr E (Sub.absSub PyFile.abs)))) :=
  C09_merger_refines (C09_stack_nand E).toIsReadable

/-- **several views on one base object** (windows on one file used alternately, the owner of the file moving it in between):
    a read or write through a window returns the same value, leaves the window at the same position and the base with the
    same bytes whatever the position of the base was before the call.  With the refinement theorems: interleaving calls on
    different views by one thread cannot change what any of them returns -/
theorem C09_shared_base (buf : Bytes) (p p' off size pos : Nat) :
    (∀ n : Int, Sub.seen (Sub.read PyFile.ops ⟨⟨buf, p⟩, off, size, pos⟩ n) =
                Sub.seen (Sub.read PyFile.ops ⟨⟨buf, p'⟩, off, size, pos⟩ n)) ∧
    (∀ w : Bytes, Sub.seen (Sub.write PyFile.ops ⟨⟨buf, p⟩, off, size, pos⟩ w) =
                  Sub.seen (Sub.write PyFile.ops ⟨⟨buf, p'⟩, off, size, pos⟩ w)) := by
  -- an absolute seek does not look at the position it leaves
  have hseek : ∀ x : Int, PyFile.ops.seek ⟨buf, p⟩ x 0 = PyFile.ops.seek ⟨buf, p'⟩ x 0 := fun _ => rfl
  constructor
  · intro n
    unfold Sub.read
    by_cases h : off + pos > off + size
    · rw [if_pos h, if_pos h]; rfl
    · rw [if_neg h, if_neg h, hseek]
  · intro w
    unfold Sub.write
    by_cases h : pos > size
    · rw [if_pos h, if_pos h]; rfl
    · rw [if_neg h, if_neg h, hseek]

/-- non-vacuity: a concrete window -/
example : ((Sub.ops PyFile.ops).run ⟨⟨[0,1,2,3,4,5,6,7,8,9], 0⟩, 2, 4, 0⟩
      [.read 2, .seek (-1) 2, .read (-5), .write [0xaa, 0xbb]]).1
    = [.bytes [2,3], .nat 3, .bytes [5], .nat 0] := by decide +kernel

end Pyctr.C09
