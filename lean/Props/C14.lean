/-
  C14 — SD-card files are transparently en/decrypted with the path-derived counter.

  Model: PyctrModel/Fmt/Sd.lean (`sdIv` = sd_path_to_iv, `setupSdKey`, `rootKey`, ID0).  Specification: `sdSlot` in
  Proofs/EngineProofs.lean.
  `lower` is str.lower and `H` SHA-256 (parameters); the data plane is the CTR wrapper of C01/C12.
-/
import PyctrModel.Fmt.Sd
import Proofs.BytesLemmas
import Proofs.CtrRefines
import Proofs.EngineProofs
import Proofs.Sim
namespace Pyctr.C14
open Sd

/-- the counter is derived from SHA-256 of the lower-cased, forward-slashed, NUL-terminated UTF-16LE path (halves
    XORed) — for every path outside the '/backup…' alias guard (the guarded paths are the known finding
    `sd.backup-alias`) -/
theorem C14_iv_partial (lower : Str → Str) (H : Bytes → Bytes) (p : Str)
    (h : (startsWith (fwd (lower p)) strBackup && (fwd (lower p)).length > 28) = false) :
    sdIv lower H p =
      (let hsh := H (encodeUtf16 (fwd (lower p)) ++ [0, 0]); readBE (slice hsh 0 16) ^^^ readBE (slice hsh 16 16)) := by
  rw [sdIv, remap, if_neg (by rw [h]; exact Bool.false_ne_true)]
  rfl

/-- case-insensitivity, for every input -/
theorem C14_case_insensitive (lower : Str → Str) (H : Bytes → Bytes) (p q : Str) (h : lower p = lower q) :
    sdIv lower H p = sdIv lower H q := by
  rw [sdIv, sdIv, h]

/-- inside the alias guard (the recorded finding `sd.backup-alias`): the counter is that of the rewritten path
    `/title/<p[12:20]>/<p[20:28]>/data<p[28:]>`, which is a different string - together with `C14_iv_partial` this is the complete
    behaviour of `sd_path_to_iv` -/
theorem C14_alias_exact (lower : Str → Str) (H : Bytes → Bytes) (p : Str)
    (h : (startsWith (fwd (lower p)) strBackup && (fwd (lower p)).length > 28) = true) :
    sdIv lower H p = ivOfNormalised H (strTitle ++ ((fwd (lower p)).drop 12).take 8 ++ [0x2F] ++ ((fwd (lower p)).drop 20).take 8 ++
      strData ++ (fwd (lower p)).drop 28) ∧ remap (fwd (lower p)) ≠ fwd (lower p) := by
  refine ⟨by rw [sdIv, remap, if_pos h], fun hc => ?_⟩
  -- the rewritten path is one character longer
  have hlen := congrArg List.length hc
  rw [remap, if_pos h] at hlen
  simp only [List.length_append, List.length_take, List.length_drop, strTitle, strData, List.length_cons, List.length_nil] at hlen
  omega

/-- separator-insensitivity, for every input (given that lower-casing does not create or destroy separators) -/
theorem C14_separator_insensitive (lower : Str → Str) (H : Bytes → Bytes) (p : Str)
    (hl : ∀ s, fwd (lower (fwd s)) = fwd (lower s)) : sdIv lower H (fwd p) = sdIv lower H p := by
  rw [sdIv, sdIv, hl]

/-- ID0 = the four little-endian words of SHA-256(KeyY)[:16], each written big-endian (i.e. byte-reversed) -/
theorem C14_id0 (H : Bytes → Bytes) (key : Bytes) (hH : 16 ≤ (H key).length) :
    id0Of H key = (List.range 4).flatMap fun w => (slice (slice (H key) 0 16) (4 * w) 4).reverse := by
  unfold id0Of
  simp only [List.flatMap_def]
  congr 1
  apply List.map_congr_left
  intro w hw
  rw [List.mem_range] at hw
  have h16 : (slice (H key) 0 16).length = 16 := slice_length_of_le _ (by omega)
  have := congrArg List.reverse (toLE_readLE (slice (slice (H key) 0 16) (4 * w) 4))
  rwa [slice_length_of_le _ (by rw [h16]; omega)] at this

/-- the three accepted movable.sed lengths, key at 0x110 for the long forms; everything else is rejected -/
theorem C14_lengths (data : Bytes) :
    (data.length = 0x10 → sdKeyOf data = .ok data) ∧
    (data.length = 0x120 ∨ data.length = 0x140 → sdKeyOf data = .ok (slice data 0x110 0x10)) ∧
    (data.length ≠ 0x10 → data.length ≠ 0x120 → data.length ≠ 0x140 →
      sdKeyOf data = .error (.other "BadMovableSedError")) := by
  refine ⟨fun h => ?_, fun h => ?_, fun h1 h2 h3 => ?_⟩
  · rw [sdKeyOf, if_pos h]
  · rw [sdKeyOf, if_neg (by omega), if_pos h]
  · rw [sdKeyOf, if_neg h1, if_neg (by omega)]

/-- reading returns the CTR decryption and writing stores the matching ciphertext: the SD file handle is the CTR
    wrapper (slot 0x34 ≥ 4 ⇒ 3DS flavour) over the backing file, so C12's coupling applies with the path counter -/
theorem C14_rw (E : Bytes → Bytes) :
    IsFileW (CtrIO.ops PyFile.ops E) (CtrIO.invCtr (fun _ => True) PyFile.abs) (CtrIO.absCtr E PyFile.abs) :=
  CtrIO.ctr_isFileW E pyfile_isFile.toIsFileW

/-- **which key a card is opened with** (`SDFilesystem.__init__`, `SDRoot.__init__`): a non-empty `sd_key` decides; otherwise the
    movable.sed file; otherwise the engine as it is (and it must hold a key) -/
theorem C14_root_key (H : Bytes → Bytes) (e : Engine) (held : Option Bytes) (sdKey : Bytes) (file : Option Bytes) :
    (sdKey ≠ [] → rootKey H e held sdKey file = setupSdKey H e sdKey) ∧
    (sdKey = [] → ∀ d, file = some d → rootKey H e held sdKey file = setupSdKey H e d) ∧
    (sdKey = [] → file = none → rootKey H e held sdKey file =
      match held with | some i => .ok (e, i) | none => .error (.other "MissingMovableSedError")) := by
  unfold rootKey
  refine ⟨fun h => if_pos h, fun h d hd => ?_, fun h hf => ?_⟩
  · rw [if_neg (fun hn => hn h), hd]
  · rw [if_neg (fun hn => hn h), hf]
    rfl

/-- `setup_sd_key` on any engine: afterwards the three SD slots hold the key of the data **whatever they held before**, the
    normal keys are the scrambler outputs, the ID0 is that of the key -/
theorem C14_setup_replaces (H : Bytes → Bytes) (e : Engine) (data key : Bytes) (hk : sdKeyOf data = .ok key) :
    ∃ e', setupSdKey H e data = .ok (e', id0Of H key) ∧
      (∀ s, sdSlot s → e'.keyY s = some (readBE key)) ∧ (∀ s, e'.keyX s = e.keyX s) ∧
      (∀ s, sdSlot s → ∀ x, e.keyX s = some x → e'.normal s = some (Pyctr.keygenSlot s x (readBE key))) := by
  unfold setupSdKey
  rw [hk]
  -- none of the three is a DSi slot: the key is read big-endian
  have hkey : ∀ s, sdSlot s → Engine.keyToInt s key = readBE key := by rintro s (rfl | rfl | rfl) <;> rfl
  refine ⟨_, rfl, fun s hs => ?_, fun s => ?_, fun s hs x hx => ?_⟩
  all_goals obtain ⟨hx', -, hin, -⟩ := Engine.setY_slots (fun s => Engine.keyToInt s key) [0x34, 0x30, 0x3A] e s
  · rw [← hkey s hs]; exact (hin ((sdSlot_iff_mem s).mp hs)).1
  · exact hx'
  · rw [← hkey s hs]; exact (hin ((sdSlot_iff_mem s).mp hs)).2 x hx

/-- hence the card's keys do not depend on the engine's history: two engines with the same SD KeyX values (a fresh one, one that
    loaded another console's movable.sed, …), given the same `sd_key`, end with the same SD keys and the same ID0 -/
theorem C14_root_key_forgets (H : Bytes → Bytes) (e₁ e₂ : Engine) (h₁ h₂ f₁ f₂ : Option Bytes) (sdKey key : Bytes)
    (hne : sdKey ≠ []) (hk : sdKeyOf sdKey = .ok key) (hx : ∀ s, sdSlot s → e₁.keyX s = e₂.keyX s) :
    ∃ a b, rootKey H e₁ h₁ sdKey f₁ = .ok (a, id0Of H key) ∧ rootKey H e₂ h₂ sdKey f₂ = .ok (b, id0Of H key) ∧
      (∀ s, sdSlot s → a.keyY s = b.keyY s) ∧
      (∀ s, sdSlot s → ∀ x, e₁.keyX s = some x →
        a.normal s = some (Pyctr.keygenSlot s x (readBE key)) ∧ b.normal s = a.normal s) := by
  obtain ⟨a, ha, hya, _, hna⟩ := C14_setup_replaces H e₁ sdKey key hk
  obtain ⟨b, hb, hyb, _, hnb⟩ := C14_setup_replaces H e₂ sdKey key hk
  refine ⟨a, b, ?_, ?_, ?_, ?_⟩
  · rw [(C14_root_key H e₁ h₁ sdKey f₁).1 hne]; exact ha
  · rw [(C14_root_key H e₂ h₂ sdKey f₂).1 hne]; exact hb
  · intro s hs; rw [hya s hs, hyb s hs]
  · intro s hs x hx1
    refine ⟨hna s hs x hx1, ?_⟩
    rw [hna s hs x hx1, hnb s hs x (by rw [← hx s hs]; exact hx1)]

/-- non-vacuity: a 16-byte key is accepted as it is -/
example : sdKeyOf (List.replicate 16 (7 : UInt8)) = .ok (List.replicate 16 7) ∧ (List.replicate 16 (7 : UInt8)) ≠ [] :=
  ⟨rfl, by decide⟩

end Pyctr.C14
