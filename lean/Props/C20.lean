/-
  C20 — parse/serialise and compress/decompress pairs are mutual inverses.

  Models: PyctrModel/Fmt/Codecs.lean (SMDH titles / flags / region lockout / icon, seed database, config savegame),
  PyctrModel/Fmt/Lzss.lean and LzssEnc.lean (backward LZSS decoder, encoders), PyctrModel/Save/Desc.lean (DIFI / IVFC / DPFS),
  PyctrModel/Fmt/Nand.lean (NCSD header), PyctrModel/Fmt/Tmd.lean (TitleVersion / ContentTypeFlags words).
  pyctr has no compressor: the LZSS round trip is proved for every disciplined encoder (`Lzss.validB`) and for the model's
  reference compressor; the harness ties its own compressor to `validB` on every run.  The decoder's termination and bounds are
  theorems of C19.
-/
import Proofs.BitFields
import Proofs.BytesLemmas
import Proofs.CodecProofs
import Proofs.ConfigProofs
import Proofs.DescRoundtrip
import Proofs.LzssRoundtrip
import Proofs.NandProofs
import Proofs.TmdRecords
namespace Pyctr.C20

/-- TitleVersion: every 16-bit word survives from_int → int (every (major, minor, micro) in range survives int → from_int:
    `Tmd.Version.ofInt_toInt`) -/
theorem C20_version_word (w : Nat) (h : w < 65536) : Tmd.Version.toInt (Tmd.Version.ofInt w) = w := Tmd.Version.toInt_ofInt w h

/-- ContentTypeFlags: every flag set survives int → from_int … -/
theorem C20_typeflags_value (f : Tmd.TypeFlags) : Tmd.TypeFlags.ofInt f.toInt = f := f.ofInt_toInt

/-- … and a word that uses only the five flag bits survives from_int → int (what is left of any word:
    `Tmd.TypeFlags.toInt_ofInt`) -/
theorem C20_typeflags_word (w : Nat) (h : w < 65536) (hc : w &&& 0x3FF8 = 0) : (Tmd.TypeFlags.ofInt w).toInt = w := by
  -- `0x3FF8` is bits 3 to 13; shifted down by three it is `2 ^ 11 - 1`, so the hypothesis is `(w >>> 3) % 2 ^ 11 = 0`
  have := congrArg (· >>> 3) hc
  simp only [Nat.shiftRight_and_distrib, Nat.reduceShiftRight, Nat.and_two_pow_sub_one_eq_mod _ 11, Nat.zero_shiftRight] at this
  rw [Tmd.TypeFlags.toInt_ofInt]; omega

/-- SMDH flags: any set of the eleven flags is read back from the word a builder writes … -/
theorem C20_smdh_flags : ∀ (a b c d e f g h i j k : Bool),
    Smdh.Flags.ofWord (Smdh.Flags.toWord ⟨a, b, c, d, e, f, g, h, i, j, k⟩) = ⟨a, b, c, d, e, f, g, h, i, j, k⟩ := by
  intro a b c d e f g h i j k
  -- bits 9 and 11 are not flags
  have hw : Smdh.Flags.toWord ⟨a, b, c, d, e, f, g, h, i, j, k⟩ = ofBits [a, b, c, d, e, f, g, h, i, false, j, false, k] 0 := by
    simp only [Smdh.Flags.toWord, ofBits, ite_eq_toNat_mul, Bool.toNat_false]; simp +arith only
  simp only [Smdh.Flags.ofWord, hw, Smdh.Flags.mk.injEq]
  exact ⟨ofBits_test _ 0 0, ofBits_test _ 0 1, ofBits_test _ 0 2, ofBits_test _ 0 3, ofBits_test _ 0 4, ofBits_test _ 0 5,
    ofBits_test _ 0 6, ofBits_test _ 0 7, ofBits_test _ 0 8, ofBits_test _ 0 10, ofBits_test _ 0 12⟩

/-- … and the other bits of a word are ignored -/
theorem C20_smdh_flags_mask (w : Nat) : Smdh.Flags.ofWord w = Smdh.Flags.ofWord (w &&& 0x15FF) := by
  unfold Smdh.Flags.ofWord
  have h : ∀ m, m &&& 0x15FF = m → (w &&& 0x15FF) &&& m = w &&& m := by
    intro m hm; rw [Nat.and_assoc, Nat.and_comm 0x15FF m, hm]
  simp only [h 0x1 (by decide), h 0x2 (by decide), h 0x4 (by decide), h 0x8 (by decide), h 0x10 (by decide), h 0x20 (by decide),
    h 0x40 (by decide), h 0x80 (by decide), h 0x100 (by decide), h 0x400 (by decide), h 0x1000 (by decide)]

/-- SMDH region lockout: any subset of the seven regions reads back (RegionFree false) … -/
theorem C20_smdh_region : ∀ (a b c d e f g : Bool),
    Smdh.Region.ofWord (Smdh.Region.toWord [a, b, c, d, e, f, g] false) = ⟨a, b, c, d, e, f, g, false⟩ := by
  intro a b c d e f g
  have hw : Smdh.Region.toWord [a, b, c, d, e, f, g] false = ofBits [a, b, c, d, e, f, g] 0 := by
    rw [Smdh.Region.toWord, if_neg (by decide), sum_zipIdx, Nat.pow_zero, Nat.one_mul]
  -- seven digits stay below the region-free constant
  have hlt := ofBits_lt [a, b, c, d, e, f, g] 0 7
  simp only [Smdh.Region.ofWord, hw, Smdh.Region.mk.injEq]
  exact ⟨ofBits_test _ 0 0, ofBits_test _ 0 1, ofBits_test _ 0 2, ofBits_test _ 0 3, ofBits_test _ 0 4, ofBits_test _ 0 5,
    ofBits_test _ 0 6, beq_false_of_ne (by omega)⟩

/-- … and the region-free constant reads all-true -/
theorem C20_smdh_region_free : Smdh.Region.ofWord (Smdh.Region.toWord [] true) = ⟨true, true, true, true, true, true, true, true⟩ := by
  decide +kernel

/-- SMDH application title: value → bytes → value, for texts of well-formed UTF-16 (non-BMP included) up to the field width
    without NUL at either end -/
theorem C20_apptitle_value (t : Smdh.AppTitle) (h1 : Smdh.GoodField t.short 0x80) (h2 : Smdh.GoodField t.long 0x100)
    (h3 : Smdh.GoodField t.publisher 0x80) : Smdh.AppTitle.fromBytes t.toBytes = .ok t := by
  have L : Laid t.toBytes 0 [Smdh.fieldToBytes t.short 0x80, Smdh.fieldToBytes t.long 0x100, Smdh.fieldToBytes t.publisher 0x80] :=
    .of_flatten (by simp [Smdh.AppTitle.toBytes])
  simp only [Laid, Smdh.fieldToBytes_length _ _ h1.fit, Smdh.fieldToBytes_length _ _ h2.fit, Smdh.fieldToBytes_length _ _ h3.fit,
    Nat.zero_add, Nat.reduceAdd] at L
  obtain ⟨s1, s2, s3, -⟩ := L
  rw [Smdh.AppTitle.fromBytes, s1, s2, s3, Smdh.field_roundtrip _ _ (by decide) h1, Smdh.field_roundtrip _ _ (by decide) h2,
    Smdh.field_roundtrip _ _ (by decide) h3]

/-- … and canonical image → value → image -/
theorem C20_apptitle_image (t : Smdh.AppTitle) (h1 : Smdh.GoodField t.short 0x80) (h2 : Smdh.GoodField t.long 0x100)
    (h3 : Smdh.GoodField t.publisher 0x80) (raw : Bytes) (hraw : raw = t.toBytes) :
    (Smdh.AppTitle.fromBytes raw).map Smdh.AppTitle.toBytes = .ok raw := by
  rw [hraw, C20_apptitle_value t h1 h2 h3]; rfl

/-- non-vacuity: a concrete good title (a surrogate pair between two BMP characters) -/
example : Smdh.GoodField [0x41, 0xD83D, 0xDE00, 0x42] 0x80 :=
  ⟨by decide, by decide, by decide, by decide, by decide⟩

/-- SMDH icon: the decoder's address map is Morton order in row-major 8×8 tiles, for every pixel of both icons -/
theorem C20_icon_morton_24 : ∀ x, x < 24 → ∀ y, y < 24 → Smdh.tileIndex x y 24 = Smdh.mortonSpec x y 24 :=
  fun x _ y _ => Smdh.tileIndex_eq x y 24
theorem C20_icon_morton_48 : ∀ x, x < 48 → ∀ y, y < 48 → Smdh.tileIndex x y 48 = Smdh.mortonSpec x y 48 :=
  fun x _ y _ => Smdh.tileIndex_eq x y 48

/-- colour expansion for all 65536 RGB565 values: each channel is floor(c · 255 / max) of its field -/
theorem C20_icon_colour (n : Nat) (h : n < 65536) :
    Smdh.rgb565 n = (n / 2048 * 255 / 31, n / 32 % 64 * 255 / 63, n % 32 * 255 / 31) := by
  have h1 : n / 2048 < 32 := Nat.div_lt_of_lt_mul h
  simp only [Smdh.rgb565, Nat.and_two_pow_sub_one_eq_mod _ 5, Nat.and_two_pow_sub_one_eq_mod _ 6,
    Nat.and_two_pow_sub_one_eq_mod _ 8, Nat.shiftRight_eq_div_pow, Nat.mod_eq_of_lt h1]
  exact Prod.ext (Nat.mod_eq_of_lt (Smdh.expand_lt _ 31 (Nat.le_of_lt_succ h1)))
    (Prod.ext (Nat.mod_eq_of_lt (Smdh.expand_lt _ 63 (Nat.le_of_lt_succ (Nat.mod_lt _ (by decide)))))
      (Nat.mod_eq_of_lt (Smdh.expand_lt _ 31 (Nat.le_of_lt_succ (Nat.mod_lt _ (by decide))))))

/-- **icon decoding is the exact inverse of Morton tiling with RGB565 → RGB888 expansion** -/
theorem C20_icon_roundtrip (pix : Nat → Nat → Nat) (w : Nat) (hw : w = 24 ∨ w = 48) (hpix : ∀ y x, pix y x < 65536) :
    Smdh.loadTiled (Smdh.tileImage pix w w) w w = (List.range w).map fun y => (List.range w).map fun x => Smdh.rgb565 (pix y x) :=
  have h8 : w % 8 = 0 := by rcases hw with rfl | rfl <;> rfl
  Smdh.loadTiled_tileImage pix w w h8 h8 hpix

/-- seed database: save → load gives the same entries in the same order (ids that fit, 16-byte seeds, distinct ids) -/
theorem C20_seeddb (db : List (Nat × Bytes)) (h : SeedDb.WF db) : ∃ b, SeedDb.save db = some b ∧ SeedDb.load [] b = .ok db := by
  refine ⟨_, SeedDb.save_eq db h, ?_⟩
  rw [SeedDb.load, SeedDb.loadEntries_save db h]
  exact congrArg Except.ok ((SeedDb.foldl_dictSet db [] (List.pairwise_map.mp h.distinct)).trans (List.nil_append db))

/-- save partition descriptors: value → bytes → value (block-size exponents ≤ 63: larger ones are rejected on parsing) -/
theorem C20_difi (x : Save.Difi) (b : Bytes) (h : x.toBytes = some b) : Save.Difi.fromBytes b = .ok x := Save.difi_roundtrip x b h
theorem C20_ivfc (x : Save.Ivfc) (b : Bytes) (h : x.toBytes = some b)
    (hs : x.lv1.sane = true ∧ x.lv2.sane = true ∧ x.lv3.sane = true ∧ x.lv4.sane = true) : Save.Ivfc.fromBytes b = .ok x :=
  Save.ivfc_roundtrip x b h hs
theorem C20_dpfs (x : Save.Dpfs) (b : Bytes) (h : x.toBytes = some b)
    (hs : x.lv1.sane = true ∧ x.lv2.sane = true ∧ x.lv3.sane = true) : Save.Dpfs.fromBytes b = .ok x :=
  Save.dpfs_roundtrip x b h hs

/-- the partition descriptor as a whole (DIFI + IVFC + DPFS + master hashes at the offsets the DIFI header names, in a
    zero-filled array of the descriptor's size): `load_partdesc(partdesc_to_bytes(x)) = x` when the four fields lie inside
    and do not overlap (decidable; evaluated on every generated save image) -/
theorem C20_partdesc (x : Save.PartDesc) (size : Nat) (pd : Bytes) (wf : Save.descWFB x size = true)
    (h : Save.partdescToBytes x size = some pd) : pd.length = size ∧ Save.loadPartdesc pd = .ok x :=
  Save.partdesc_roundtrip x size pd (Save.descWF_of_b x size wf) h

/-- config savegame image: value → bytes → value for every block list the strict `set_block` can build (`ConfigSave.WF`: known
    ids with the table's flags and sizes, no id twice, and a bound on the number of blocks far above the 65 known ids, so that
    the entry table fits the image); the other premise is that `to_bytes` succeeds (it fails when the data do not fit) -/
theorem C20_cfg_image (bl : List ConfigSave.Block) (hwf : ConfigSave.WF bl) (img : Bytes) (hb : ConfigSave.toBytes bl = .ok img) :
    ConfigSave.load img = .ok bl := ConfigSave.cfg_roundtrip bl hwf img hb

/-- ... and bytes → value → bytes for a canonical image (one that `to_bytes` produces) -/
theorem C20_cfg_canonical (bl : List ConfigSave.Block) (hwf : ConfigSave.WF bl) (img : Bytes) (hb : ConfigSave.toBytes bl = .ok img) :
    ∃ bl', ConfigSave.load img = .ok bl' ∧ ConfigSave.toBytes bl' = .ok img :=
  ⟨bl, C20_cfg_image bl hwf img hb, hb⟩

example : ConfigSave.WF [⟨0x000A0000, 0xE, zeros 28⟩, ⟨0x000F0004, 0xC, [2, 0, 0, 0]⟩, ⟨0x00030001, 0xE, zeros 8⟩] :=
  ⟨by decide, by decide, by decide⟩

/-- config blocks: what `set_block` stores is what `get_block` returns, and no other block changes -/
theorem C20_cfg_set_get (blocks blocks' : List ConfigSave.Block) (id : Nat) (data : Bytes) (flags : Option Nat)
    (h : ConfigSave.setBlock blocks id data flags = .ok blocks') :
    (∃ fl, ConfigSave.getBlock blocks' id = .ok ⟨id, fl, data⟩) ∧
      ∀ j, j ≠ id → ConfigSave.getBlock blocks' j = ConfigSave.getBlock blocks j :=
  ⟨ConfigSave.setBlock_get _ _ _ _ _ h, fun j hj => ConfigSave.setBlock_other _ _ _ j _ _ h hj⟩

/-- a block added without explicit flags gets the flags of the strict table (so that the image loads again) -/
theorem C20_cfg_default_flags (blocks blocks' : List ConfigSave.Block) (id : Nat) (data : Bytes)
    (h : ConfigSave.setBlock blocks id data none = .ok blocks') (hnew : blocks.find? (·.id == id) = none) :
    ∃ efl, ConfigSave.knownOf id = some (efl, data.length) ∧ ConfigSave.getBlock blocks' id = .ok ⟨id, efl, data⟩ := by
  obtain ⟨efl, hk, hb⟩ := ConfigSave.setBlock_ok _ _ _ _ _ h
  refine ⟨efl, hk, ?_⟩
  rw [hb, ConfigSave.put_get]
  simp only [ConfigSave.resolveFlags, hnew]

/-- typed accessors: user name (well-formed UTF-16, no NUL, at most 14 code units), RTC offset (< 2^64), system model -/
theorem C20_cfg_username (blocks blocks' : List ConfigSave.Block) (v : Smdh.U16s) (hfit : 2 * v.length ≤ 28)
    (hu : ∀ x, x ∈ v → x < 65536) (hnz : ∀ x, x ∈ v → x ≠ 0) (h : ConfigSave.usernameSet blocks v = .ok blocks') :
    ConfigSave.usernameGet blocks' = .ok v := by
  unfold ConfigSave.usernameSet at h
  split at h
  · cases h
  · rename_i hval
    have hvalid : Smdh.validUtf16 v = true := by simpa using hval
    obtain ⟨fl, hg⟩ := ConfigSave.setBlock_get _ _ _ _ _ h
    unfold ConfigSave.usernameGet
    rw [hg]
    simp only
    rw [ljust_length _ _ _ (by rw [Smdh.bytesOfUnits_length]; exact hfit), Smdh.unitsOfBytes_ljust v 28 hfit hu,
      Smdh.validUtf16_append_zeros v _ hvalid]
    simp only [Nat.reduceMod, ne_eq, not_true_eq_false, Bool.not_true, Bool.false_eq_true, or_self, if_false]
    rw [ConfigSave.cutAtZero_append v _ hnz]

theorem C20_cfg_time (blocks blocks' : List ConfigSave.Block) (v : Nat) (hv : v < 2 ^ 64)
    (h : ConfigSave.timeSet blocks (v : Int) = .ok blocks') : ConfigSave.timeGet blocks' = .ok v := by
  unfold ConfigSave.timeSet at h
  rw [if_neg (by omega)] at h
  obtain ⟨fl, hg⟩ := ConfigSave.setBlock_get _ _ _ _ _ h
  unfold ConfigSave.timeGet
  rw [hg]
  simp only [Except.map, Int.toNat_natCast]
  rw [readLE_toLE 8 v hv]

/-- each of the six models is read back, and bytes 1–3 of an existing block are kept -/
theorem C20_cfg_model (blocks blocks' : List ConfigSave.Block) (m : Nat) (hm : m ≤ 5)
    (h : ConfigSave.modelSet blocks (m : Int) = .ok blocks') :
    ConfigSave.modelGet blocks' = .ok m ∧
    ∀ b, ConfigSave.getBlock blocks 0x000F0004 = .ok b →
      ∃ fl, ConfigSave.getBlock blocks' 0x000F0004 = .ok ⟨0x000F0004, fl, UInt8.ofNat m :: b.data.drop 1⟩ := by
  unfold ConfigSave.modelSet at h
  rw [if_neg (by omega)] at h
  split at h
  · cases h
  · rename_i x rest hold
    obtain ⟨fl, hg⟩ := ConfigSave.setBlock_get _ _ _ _ _ h
    constructor
    · unfold ConfigSave.modelGet
      rw [hg]
      simp only [Int.toNat_natCast]
      rw [UInt8.toNat_ofNat_of_lt' (Nat.lt_of_le_of_lt hm (by decide)), if_pos hm]
    · intro b hb
      rw [hb] at hold
      simp only at hold
      refine ⟨fl, ?_⟩
      rw [hg, hold]
      simp

/-- NAND NCSD header: image → value → image (unused slots zero) -/
theorem C20_ncsd_image (b : Bytes) (hd : Nand.Header) (h : Nand.Header.fromBytes b = .ok hd)
    (hwf : Nand.UnusedZero (slice b 0x110 8) (slice b 0x118 8) (slice b 0x120 0x40)) : hd.toBytes = b :=
  Nand.header_roundtrip b hd h hwf

/-- **ExeFS code decompression inverts every disciplined backward-LZSS compressor.**  A compressor chooses an uncompressed
    head `P`, token groups `gs` (literals and back references in decoding order) and padding; `Lzss.encodeFile` is the image
    layout, `Lzss.validB` the discipline (12-bit offsets into already decoded data, 4-bit lengths, groups of eight, the
    write pointer never overtaking the read pointer, field widths of the footer).  For every such choice, overlapping
    references and maximum distance and length included, `decompress_code` returns the head followed by what the tokens stand
    for.  The token lists of the harness's compressor go through `encodeFile` / `validB` in the driver (`lzss-enc`) on every
    run: the image must be byte-identical to the compressor's own and `validB` must hold. -/
theorem C20_lzss_roundtrip (P : Bytes) (gs : List (List Lzss.Tok)) (pad : Nat) (hv : Lzss.validB P gs pad = true) :
    Lzss.decompress (Lzss.encodeFile P gs pad) = .ok (P ++ Lzss.expand gs []) := Lzss.decompress_encode P gs pad hv

/-- **decompress ∘ compress = id**, for every input and padding, for the reference compressor of the model (`Lzss.compress`:
    greedy longest match from the end of the data, longest in-place-decodable token prefix, self-checking).  The compiled model
    runs this compressor in the correspondence check and pyctr decompresses its images. -/
theorem C20_lzss_compress (x : Bytes) (pad : Nat) (img : Bytes) (h : Lzss.compress x pad = some img) :
    Lzss.decompress img = .ok x := by
  obtain ⟨j, _, hj⟩ := List.exists_of_findSome?_eq_some h
  simp only [Lzss.tryCut] at hj
  split at hj
  · rename_i hc
    simp only [Bool.and_eq_true, beq_iff_eq] at hc
    cases hj
    rw [C20_lzss_roundtrip _ _ pad hc.1, hc.2]
  · cases hj

/-- what the tokens stand for has the announced size: the decompressed image is `|P| + totalOut gs` bytes long -/
theorem C20_lzss_size (gs : List (List Lzss.Tok)) : (Lzss.expand gs []).length = Lzss.totalOut gs := by
  simpa using Lzss.expand_length gs []

/-- non-vacuity: three literals and five overlapping maximum-length references (22 stream bytes for 93 bytes of data) -/
example : Lzss.validB [9, 9] [[.lit 1, .lit 2, .lit 3, .ref 0 15, .ref 0 15, .ref 0 15, .ref 0 15, .ref 0 15]] 0 = true := by
  decide

end Pyctr.C20
