/-
  C08 — key scrambler and keyslot state stay coherent under any key-operation sequence.

  Model: PyctrModel/Engine/Engine.lean (CryptoEngine: `keygen3ds`, `keygenTwl`, `pyRol`, the keyslot setters, the engine
  heap), PyctrModel/Fmt/Sd.lean (`setupSdKey`).  The hardware formulas `scr3ds` / `scrTwl` on 128-bit words and the ghost
  bookkeeping (`KeyOp`, `gstep`, `Coherent`) are in Proofs/EngineProofs.lean.
-/
import PyctrModel.Fmt.Sd
import Proofs.EngineProofs
namespace Pyctr.C08
open Engine

/-- Python's `rol` on unbounded ints is the 128-bit rotation (every rotation amount the code uses) -/
theorem C08_rol (v r : Nat) (hr : r < 128) (hr0 : 0 < r) :
    pyRol v r 128 = ((BitVec.ofNat 128 v).rotateLeft r).toNat := pyRol_eq v r hr hr0

/-- 3DS scrambler: for *all* X, Y (carries out of bit 127 and every rotation-boundary bit included) the code's
    unbounded-integer arithmetic equals the 128-bit hardware formula, big-endian -/
theorem C08_scrambler_3ds (x y : Nat) :
    keygen3ds x y = toBE 16 (scr3ds (BitVec.ofNat 128 x) (BitVec.ofNat 128 y)).toNat := by
  unfold keygen3ds scr3ds
  rw [C08_rol _ 87 (by omega) (by omega), BitVec.ofNat_add, BitVec.ofNat_xor, C08_rol _ 2 (by omega) (by omega),
    BitVec.ofNat_toNat, BitVec.setWidth_eq]

/-- DSi scrambler -/
theorem C08_scrambler_twl (x y : Nat) :
    keygenTwl x y = toBE 16 (scrTwl (BitVec.ofNat 128 x) (BitVec.ofNat 128 y)).toNat := by
  unfold keygenTwl scrTwl
  rw [C08_rol _ 42 (by omega) (by omega), BitVec.ofNat_add, BitVec.ofNat_xor]

/-- slots 0-3 use the DSi formula, slots >= 4 the 3DS formula -/
theorem C08_formula_choice (slot x y : Nat) :
    keygenSlot slot x y = if slot < 4 then keygenTwl x y else keygen3ds x y := rfl

/-- byte-string keys: big-endian for slots > 3, little-endian for slots 0-3 -/
theorem C08_endianness (slot : Nat) (key : Bytes) :
    keyToInt slot key = if slot > 3 then readBE key else readLE key := rfl

/-- the coherence invariant is preserved by every key operation … -/
theorem C08_coherent_step (ge : GEngine) (h : Coherent ge) (op : KeyOp) : Coherent (gstep ge op) :=
  coherent_step ge h op

/-- … hence holds after any operation sequence on any engine (however it was constructed): a slot whose last
    X/Y set had updating on with both halves present, or that was refreshed with both halves present, holds the
    scrambler output; a directly set normal key persists until X or Y of that slot is set again. -/
theorem C08_coherent (e : Engine) (ops : List KeyOp) : Coherent (ops.foldl gstep ⟨e, fun _ => .free⟩) :=
  coherent_run ops _ fun _ => trivial

/-- ciphers and wrappers are created with exactly the slot's normal key; a slot without one raises the
    missing-keyslot error -/
theorem C08_factories (e : Engine) (slot : Nat) :
    (∀ k, e.normal slot = some k → e.cipherKey slot = .ok k) ∧
    (e.normal slot = none → e.cipherKey slot = .error (.other "KeyslotMissingError")) := by
  constructor
  · intro k h; rw [cipherKey, h]
  · intro h; rw [cipherKey, h]

/-- clone independence at the heap level: an operation on one engine of the heap leaves every other engine
    (in particular the one it was cloned from) exactly as it was -/
theorem C08_clone_indep (heap : EngineHeap) (i j : Nat) (e' : Engine) (hij : i ≠ j) :
    (heap.set i e')[j]? = heap[j]? :=
  List.getElem?_set_ne hij

/-- a clone starts as an exact copy -/
theorem C08_clone_copy (heap : EngineHeap) (i : Nat) (e : Engine) (h : heap[i]? = some e) :
    (heap ++ [e])[heap.length]? = some e ∧ (heap ++ [e])[i]? = some e := by
  constructor
  · simp
  · rw [List.getElem?_append_left (List.getElem?_eq_some_iff.mp h).1]; exact h

/-- **compound key-setting operations stay in their slots**: `setup_sd_key` (movable.sed KeyY into SD 0x34, CMAC-SD/NAND 0x30,
    DSiWare export 0x3A, each with its normal key regenerated) leaves KeyX, KeyY and the normal key of every other slot - a
    directly set normal key, a slot whose halves were set without updating - exactly as they were -/
theorem C08_sd_key_frame (H : Bytes → Bytes) (e e' : Engine) (data id0 : Bytes) (h : Sd.setupSdKey H e data = .ok (e', id0))
    (s : Nat) (h1 : s ≠ 0x34) (h2 : s ≠ 0x30) (h3 : s ≠ 0x3A) :
    e'.normal s = e.normal s ∧ e'.keyX s = e.keyX s ∧ e'.keyY s = e.keyY s ∧ e'.dev = e.dev := by
  revert h
  fun_cases Sd.setupSdKey H e data
  case case1 => exact nofun
  case case2 key _ _ _ _ =>
    intro h
    obtain ⟨rfl, -⟩ := Prod.mk.inj (Except.ok.inj h)
    obtain ⟨hx, hd, -, hout⟩ := setY_slots (fun s => keyToInt s key) [0x34, 0x30, 0x3A] e s
    obtain ⟨hy, hn⟩ := hout (by simp [h1, h2, h3])
    exact ⟨hn, hx, hy, hd⟩

/-- non-vacuity: an addition that carries out of bit 127, and a formula/direct/deferred mix -/
example : keygen3ds ((1 <<< 128) - 1) 0 = toBE 16 (scr3ds (BitVec.ofNat 128 ((1 <<< 128) - 1)) 0).toNat :=
  C08_scrambler_3ds _ _

example : let ge := [KeyOp.setX 0x2C 5 true, .setY 0x2C 9 true, .setNormal 0x30 [1], .setX 3 7 false].foldl gstep
            ⟨Engine.create false none, fun _ => .free⟩
    (ge.e.normal 0x2C = some (keygen3ds 5 9)) ∧ ge.e.normal 0x30 = some [1] := by decide

end Pyctr.C08
