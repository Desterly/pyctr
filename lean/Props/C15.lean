/-
  C15 — handles onto one file work from different threads as if used one after another.

  Model: PyctrModel/Sys/Sched.lean (threads = event lists; `seek x p` / `use x` on shared position-carrying objects; locks).
  `disciplined guard` is a check on each thread's program alone.  The theorems say that it is enough: under every schedule
  (any number of threads, any interleaving the lock semantics admits) every position-dependent call observes the position its
  own thread set, so a read returns the bytes at its own offset (what a serial run returns when no write intervenes) and a
  write lands at its own offset.  The programs the theorem is applied to are extracted from pyctr on every run (DESIGN §C15).
-/
import Proofs.SchedProofs
namespace Pyctr.C15
open Sched

/-- threads that start with nothing held and disciplined programs satisfy the invariant -/
theorem C15_init (guard : Nat → Nat) (progs : List (List Ev)) (pos : Nat → Nat)
    (h : ∀ p, p ∈ progs → disciplined guard p.length ⟨[], [], p⟩ = true) : Inv guard (initSt progs pos) := by
  refine (inv_iff guard).mpr fun t c hc => ?_
  obtain ⟨p, hp, rfl⟩ := initSt_get hc
  exact ⟨h p hp, List.nodup_nil, fun l => by simp [initSt], fun x q hq => nomatch hq⟩

/-- every step of every thread keeps the invariant (discipline of the remaining programs, lock ownership, "my pending position
    is the object's position") -/
theorem C15_step (guard : Nat → Nat) (s s' : St) (t k : Nat) (o : Option (Nat × Nat)) (hinv : Inv guard s)
    (h : step guard s t k = some (s', o)) : Inv guard s' := step_inv guard s s' t k o hinv h

/-- **no interference**: a position-dependent call observes the position its own thread set in the same critical section -/
theorem C15_no_interference (guard : Nat → Nat) (s s' : St) (t k x obs : Nat) (hinv : Inv guard s)
    (h : step guard s t k = some (s', some (x, obs))) : Expected s t x obs :=
  use_observes_own guard s s' t k x obs hinv h

/-- **every schedule**: for disciplined programs, along any schedule of any length every observation is the observer's own -/
theorem C15_all_schedules (guard : Nat → Nat) (progs : List (List Ev)) (pos : Nat → Nat)
    (h : ∀ p, p ∈ progs → disciplined guard p.length ⟨[], [], p⟩ = true) (sched : List (Nat × Nat)) :
    RunOwn guard (initSt progs pos) sched :=
  run_own guard sched _ (C15_init guard progs pos h)

/-- **no deadlock**: if, in addition, every thread takes its locks in the order of one ranking of the locks (checked on each
    program alone) and ends with nothing held, then after any schedule either every thread has finished or some thread can
    take a step -/
theorem C15_no_deadlock (guard rank : Nat → Nat) (progs : List (List Ev)) (pos : Nat → Nat)
    (hd : ∀ p, p ∈ progs → disciplined guard p.length ⟨[], [], p⟩ = true)
    (ho : ∀ p, p ∈ progs → ordered guard rank p.length ⟨[], [], p⟩ = true) (sched : List (Nat × Nat)) :
    (∀ (t : Nat) (c : TCfg), (run guard (initSt progs pos) sched).1.ths[t]? = some c → c.todo = []) ∨
      ∃ t k r, step guard (run guard (initSt progs pos) sched).1 t k = some r :=
  finished_or_step guard rank _ (run_inv guard sched _ (C15_init guard progs pos hd))
    (run_ordInv guard rank sched _ (init_ordInv guard rank progs pos ho))

/-! non-vacuity: nested locks taken in rank order are ordered; the opposite nesting is not -/
example : ordered (fun _ => 7) (fun l => l) 6 ⟨[], [], [.acq 3, .acq 7, .seek 0 5, .use 0, .rel 7, .rel 3]⟩ = true := by decide
example : ordered (fun _ => 7) (fun l => l) 4 ⟨[], [], [.acq 7, .acq 3, .rel 3, .rel 7]⟩ = false := by decide

/-! non-vacuity: two windows on one file, each doing lock / seek / read / unlock, are disciplined;
    the same without the lock is not -/
example : disciplined (fun _ => 7) 4 ⟨[], [], [.acq 7, .seek 0 5, .use 0, .rel 7]⟩ = true := by decide
example : disciplined (fun _ => 7) 2 ⟨[], [], [.seek 0 5, .use 0]⟩ = false := by decide

end Pyctr.C15
