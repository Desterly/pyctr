/-
  C12 — CTR-wrapper writes keep ciphertext file and plaintext view consistent.

  Model and specification: as C01 (PyctrModel/Crypto/Wrappers.lean, PyctrModel/Base/AFile.lean); `E` is AES-128 encryption
  under the keyslot's normal key (a parameter).
-/
import Proofs.CtrRefines
import Proofs.Sim
import Proofs.SubRefines
import Proofs.TwlRefines
import Proofs.XorStream
namespace Pyctr.C12
variable {σ : Type} {F : FileOps σ} {inv : σ → Prop} {abs : σ → AFile} (E : Bytes → Bytes)

/-- coupling, 3DS flavour: the abstraction `absCtr` *is* "underlying file = encryption of the logical plaintext" (CTR is an
    involution), and every read/write/seek/tell, in any interleaving (read-then-write and write-then-read at the current
    position included), commutes with it and returns what the ordinary plaintext file returns.  Writes are covered whenever they
    do not start past the end of a growable base (`C12_gap_witness`: on the present code that hypothesis cannot be dropped). -/
theorem C12_coupling_partial (hF : IsFileW F inv abs) :
    IsFileW (CtrIO.ops F E) (CtrIO.invCtr inv abs) (CtrIO.absCtr E abs) := CtrIO.ctr_isFileW E hF

theorem C12_coupling_twl_partial (hF : IsFileW F inv abs) :
    IsFileW (TwlIO.ops F E) (TwlIO.invTwl inv) (TwlIO.absTwl E abs) := TwlIO.twl_isFileW E hF

/-- full strength over a window (a write truncated by the window leaves the coupling intact; no hypothesis) -/
theorem C12_windowed (hF : IsFileW F inv abs) (hfix : ∀ r, inv r → (abs r).fixed = true) :
    IsFile (CtrIO.ops F E) (CtrIO.invCtr inv abs) (CtrIO.absCtr E abs) := CtrIO.ctr_isFile_of_fixed E hF hfix

theorem C12_windowed_twl (hF : IsFileW F inv abs) (hfix : ∀ r, inv r → (abs r).fixed = true) :
    IsFile (TwlIO.ops F E) (TwlIO.invTwl inv) (TwlIO.absTwl E abs) := TwlIO.twl_isFile_of_fixed E hF hfix

theorem C12_windowed_pyfile :
    IsFile (CtrIO.ops (Sub.ops PyFile.ops) E)
      (CtrIO.invCtr (Sub.invSub (fun _ => True) PyFile.abs) (Sub.absSub PyFile.abs))
      (CtrIO.absCtr E (Sub.absSub PyFile.abs)) :=
  C12_windowed E (Sub.sub_isFile pyfile_isFile.toIsFileW).toIsFileW (fun _ _ => rfl)

/-- every history whose writes never start past the end of a growable file: same outputs as the plaintext file, hence no error
    the ordinary file would not raise -/
theorem C12_history_partial (hF : IsFileW F inv abs) (ops : List Op) (s : CtrIO σ) (h : CtrIO.invCtr inv abs s)
    (hg : AFile.noGapRun (CtrIO.absCtr E abs s) ops) :
    ((CtrIO.ops F E).run s ops).1 = (AFile.ops.run (CtrIO.absCtr E abs s) ops).1 ∧
    CtrIO.absCtr E abs ((CtrIO.ops F E).run s ops).2 = (AFile.ops.run (CtrIO.absCtr E abs s) ops).2 := by
  obtain ⟨a, b, _⟩ := isFileW_run (C12_coupling_partial E hF) ops s h hg; exact ⟨a, b⟩

/-- bytes never written keep their ciphertext: CTR transform commutes with overlay -/
theorem C12_unwritten_kept (ks : Nat → UInt8) (p : Nat) (c w : Bytes) (hp : p ≤ c.length) :
    xorWith ks 0 (overlay c p (xorWith ks p w)) = overlay (xorWith ks 0 c) p w := xorWith_overlay ks p c w hp

/-- the full statement fails on the present code (known finding `ctrio.write-past-eof-gap`): after seeking past the end of a
    growable file, a write leaves the zero-filled gap unencrypted, so the file is no longer the encryption of the logical
    plaintext. -/
theorem C12_gap_witness :
    let E : Bytes → Bytes := fun _ => List.replicate 16 1
    let s0 : CtrIO PyFile := ⟨⟨[0x10, 0x11], 0⟩, 0, none, false⟩
    let s1 := ((CtrIO.ops PyFile.ops E).run s0 [.seek 4 0, .write [0xAA]]).2
    (CtrIO.absCtr E PyFile.abs s1).content ≠
      (AFile.ops.run (CtrIO.absCtr E PyFile.abs s0) [.seek 4 0, .write [0xAA]]).2.content := by decide +kernel

/-- **sharing the underlying file object is safe under "seek before the next call"**: after the wrapper's own `seek` its
    state is a function of the inner file's state and the counter alone, whatever cipher object it had cached and whoever moved
    the inner file in between (its owner, a second wrapper on it); and a state without a cached cipher reads and writes the
    same whatever its direction flag says. -/
theorem C12_seek_forgets (s s' : CtrIO σ) (hr : s.reader = s'.reader) (hc : s.counter = s'.counter) (off whence : Int) :
    ((CtrIO.seek F s off whence).map (fun x => (x.1, x.2.reader, x.2.counter, x.2.cipher)) =
     (CtrIO.seek F s' off whence).map (fun x => (x.1, x.2.reader, x.2.counter, x.2.cipher))) ∧
    (∀ (t : CtrIO σ), t.cipher = none → ∀ (b : Bool) (n : Int) (w : Bytes),
      CtrIO.read F E { t with cipherDec := b } n = CtrIO.read F E t n ∧
      CtrIO.write F E { t with cipherDec := b } w = CtrIO.write F E t w) := by
  refine ⟨?_, fun t ht b n w => ⟨?_, ?_⟩⟩
  · unfold CtrIO.seek
    rw [hr]
    cases F.seek s'.reader off whence with
    | error e => rfl
    | ok v => exact congrArg (fun c => Except.ok (v.1, v.2, c, none)) hc
  · simp only [CtrIO.read, ht, ite_self]
  · simp only [CtrIO.write, ht, ite_self]

end Pyctr.C12
