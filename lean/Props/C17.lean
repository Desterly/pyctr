/-
  C17 — save containers: verified reads return the active, authentic data or nothing.

  Model: PyctrModel/Save/{Desc,Tree,Container}.lean mirror `partition.py`, `dpfs.py`, `ivfc.py`, `disa.py`, `diff.py`
  (value semantics: the file is a byte list, the result caches are association lists).  Specification:
  PyctrModel/Save/Spec.lean (`dpfsView`, `specValid`, `verifiedView`, `chainOK`, `ContOK`, `ReachRO`).
  SHA-256 is the parameter `H`.
-/
import Proofs.BytesLemmas
import Proofs.SaveCache
import Proofs.SaveCont
import Proofs.SaveDpfs
import Proofs.SaveTamper
namespace Pyctr.C17
open Save

/-- the level-3 data file returns slices of the view: `read(n)` inside the view … -/
theorem C17_dpfs_read (P : Bytes) (dp : Dp) (hwf : DpWF P dp) (seek n : Nat) (h : seek + n ≤ dp.lv3.size) :
    dpRead P dp seek (n : Int) = .ok (slice (dpfsView P dp) seek n) :=
  dpRead_view P dp hwf seek n h

/-- … and `read(-1)` / a read running past the end returns everything up to the end of the view -/
theorem C17_dpfs_read_all (P : Bytes) (dp : Dp) (hwf : DpWF P dp) (seek : Nat) (n : Int)
    (hneg : n < 0 ∨ (seek : Int) + n > dp.lv3.size) (h : seek ≤ dp.lv3.size) :
    dpRead P dp seek n = .ok (slice (dpfsView P dp) seek (dp.lv3.size - seek)) := by
  have _ := h   -- not needed: `dpRead_eq` holds for every `seek`
  rw [dpRead_eq P dp hwf, readCount, if_pos hneg]

/-- the view is, byte by byte, the copy that the level-2 bit of the byte's block selects (first copy at the level-3
    offset, second copy `size` bytes later: the position is `Save.scatter dp x`) and has exactly `size` bytes -/
theorem C17_dpfs_active_copy (P : Bytes) (dp : Dp) (hwf : DpWF P dp) :
    (dpfsView P dp).length = dp.lv3.size ∧
    ∀ x, x < dp.lv3.size → (dpfsView P dp)[x]? = P[dp.lv3.offset + chunkOf dp (x / dp.lv3.bs) + x]? :=
  ⟨dpfsView_length P dp hwf, fun x hx => dpfsView_getElem P dp hwf x hx⟩

/-- the IVFC levels are windows of that view (level 4 possibly an external window of the partition) -/
theorem C17_levels (P : Bytes) (t : Tree) (hwf : TreeWF P t) (idx off n : Nat) :
    levelRead P t idx off n = .ok (slice (levelBytes P t idx) off n) :=
  levelRead_spec P t hwf idx off n

/-- cache soundness: whatever the cache holds from earlier calls (as long as each entry is what a fresh computation
    gives *for that level and block*), `get_block` returns the stored block and the cache-free validity, and leaves
    a sound cache.  A cache keyed by block number alone falsifies this. -/
theorem C17_cache_sound (H : Bytes → Bytes) (rd : Nat → Nat → Nat → Except Err Bytes) (bsOf : Nat → Nat)
    (master : List Bytes) (idx : Nat) (hidx : idx < 4) (block : Nat) (deep : Bool) (c : Caches)
    (hc : CacheOK H rd bsOf master c) (d : Bytes) (v : Option Bool) (c' : Caches)
    (h : getBlockG H rd bsOf master idx block true deep c = .ok (d, v, c')) :
    rd idx (block * bsOf idx) (bsOf idx) = .ok d ∧ specValid H rd bsOf master deep idx block = .ok v ∧
      CacheOK H rd bsOf master c' :=
  getBlockG_sound H rd bsOf master idx hidx block deep c hc d v c' h

/-- the verified view shows the stored block exactly where the chain is intact and filler of the same length elsewhere -/
theorem C17_verified_block (H : Bytes → Bytes) (L : Nat → Bytes) (bsOf : Nat → Nat) (master : List Bytes) (b : Nat) :
    (chainOK H bsOf master L 3 b → verifiedBlock H L bsOf master b = slice (L 3) (b * bsOf 3) (bsOf 3)) ∧
    (¬ chainOK H bsOf master L 3 b →
      verifiedBlock H L bsOf master b = List.replicate (slice (L 3) (b * bsOf 3) (bsOf 3)).length 0xDD) :=
  ⟨verifiedBlock_of_chainOK H bsOf master L b, verifiedBlock_of_not_chainOK H bsOf master L b⟩

/-- **verified reads.**  Open a container, perform reads / seeks / `get_block` calls in any order on any partition,
    then read: the result is the slice of the verified view of the *file as opened* at the reader's position —
    independent of what was read before (for a partition whose IVFC levels lie inside its DPFS view, `TreeWF`). -/
theorem C17_verified_read (H : Bytes → Bytes) (kind : Kind) (F : Bytes) (w : Bool) (c0 c c' : Cont)
    (hopen : openCont H kind F w = .ok c0) (hreach : ReachRO H c0 c) (pi : Nat) (n : Int) (d : Bytes)
    (hread : contRead H c pi n = .ok (d, c')) :
    ∃ p, c.parts[pi]? = some p ∧
      (TreeWF (p.P F) p.tree →
        d = slice (verifiedView H (levelBytes (p.P F) p.tree) p.bsOf p.master) p.seek
              (readCount p.ivfc.lv4.size p.seek n)) := by
  have h0 := openCont_ok H kind F w c0 hopen
  obtain ⟨hF, hk⟩ := reachRO_ok H c0 c h0 hreach
  have hF0 := (openCont_parts H kind F w c0 hopen).1
  obtain ⟨_, _, p, hp, hspec⟩ := contRead_spec H c hk pi n d c' hread
  rw [hF, hF0] at hspec
  exact ⟨p, hp, hspec⟩

/-- **tamper evidence.**  Two level contents of the same geometry under the same master hashes cannot both carry an
    intact chain for a block on which they differ — unless SHA-256 collides. -/
theorem C17_tamper (H : Bytes → Bytes) (bsOf : Nat → Nat) (master : List Bytes) (L L' : Nat → Bytes)
    (hlen : ∀ i, (L i).length = (L' i).length) (hdiv : ∀ up, up < 3 → 0 < bsOf up ∧ 0x20 ∣ bsOf up) (b : Nat)
    (h : chainOK H bsOf master L 3 b) (h' : chainOK H bsOf master L' 3 b) :
    slice (L 3) (b * bsOf 3) (bsOf 3) = slice (L' 3) (b * bsOf 3) (bsOf 3) ∨ Collision H :=
  chain_tamper H bsOf master L L' hlen 3 hdiv b h h'

/-- hence what the verified view of an altered file shows for an authentic block is that block or filler: altered
    contents are never returned as valid -/
theorem C17_tamper_view (H : Bytes → Bytes) (bsOf : Nat → Nat) (master : List Bytes) (L L' : Nat → Bytes)
    (hlen : ∀ i, (L i).length = (L' i).length) (hdiv : ∀ up, up < 3 → 0 < bsOf up ∧ 0x20 ∣ bsOf up) (b : Nat)
    (horig : chainOK H bsOf master L 3 b) :
    verifiedBlock H L' bsOf master b = slice (L 3) (b * bsOf 3) (bsOf 3) ∨
      verifiedBlock H L' bsOf master b = List.replicate (slice (L 3) (b * bsOf 3) (bsOf 3)).length 0xDD ∨ Collision H := by
  by_cases hv : chainOK H bsOf master L' 3 b
  · rw [(C17_verified_block H L' bsOf master b).1 hv]
    exact (C17_tamper H bsOf master L L' hlen hdiv b horig hv).imp Eq.symm Or.inr
  · rw [(C17_verified_block H L' bsOf master b).2 hv, slice_length, slice_length, hlen]
    exact .inr (.inl rfl)

/-- a DIFF whose active partition descriptor does not match the hash in its header is rejected -/
theorem C17_table_hash_diff (H : Bytes → Bytes) (F : Bytes) (w : Bool)
    (hm : slice (slice F 0x100 0x100) 0 8 = diffMagic)
    (hh : H (slice F (diffDescOff (slice F 0x100 0x100)) (le (slice F 0x100 0x100) 0x18 8)) ≠
          slice (slice F 0x100 0x100) 0x34 0x20) :
    openCont H .diff F w = .error (.other "CorruptPartitionError") := by
  simp only [openCont, openDiff]
  rw [if_neg (by simpa using hm), if_pos hh]

/-- a DISA whose active partition table does not match the hash in its header is rejected -/
theorem C17_table_hash_disa (H : Bytes → Bytes) (F : Bytes) (w : Bool)
    (hm : slice (slice F 0x100 0x100) 0 8 = disaMagic)
    (hh : H (slice F (disaTableOff (slice F 0x100 0x100)) (le (slice F 0x100 0x100) 0x20 8)) ≠
          slice (slice F 0x100 0x100) 0x6C 0x20) :
    openCont H .disa F w = .error (.other "CorruptPartitionError") := by
  simp only [openCont, openDisa]
  rw [if_neg (by simpa using hm), if_pos hh]

/-- **the active table**: zero selects the primary copy, ANY other value of the field the secondary one — DIFF reads a 32-bit
    little-endian word at 0x30 (all four bytes count: 0x100 or 0x80000000 select the secondary), DISA the byte at 0x68 -/
theorem C17_active_choice (header : Bytes) :
    ((∀ b ∈ slice header 0x30 4, b = 0) → diffDescOff header = le header 0x10 8) ∧
    ((∃ b ∈ slice header 0x30 4, b ≠ 0) → diffDescOff header = le header 0x8 8) ∧
    (header.getD 0x68 0 = 0 → disaTableOff header = le header 0x18 8) ∧
    (header.getD 0x68 0 ≠ 0 → disaTableOff header = le header 0x10 8) := by
  refine ⟨?_, ?_, ?_, ?_⟩
  · intro h
    have : le header 0x30 4 = 0 := (readLE_eq_zero _).mpr h
    simp [diffDescOff, this]
  · rintro ⟨b, hb, hne⟩
    have : le header 0x30 4 ≠ 0 := fun h0 => hne ((readLE_eq_zero _).mp h0 b hb)
    simp [diffDescOff, this]
  · intro h
    have : (header.getD 0x68 0).toNat = 0 := by rw [h]; rfl
    unfold disaTableOff; rw [if_pos this]
  · intro h
    have : (header.getD 0x68 0).toNat ≠ 0 := fun h0 => h (UInt8.toNat_inj.mp (by simpa using h0))
    unfold disaTableOff; rw [if_neg this]

/-! non-vacuity: a concrete four-level chain that is intact (H = pad/truncate to 32 bytes, one 32-byte block per level) -/
def exH : Bytes → Bytes := fun x => (x ++ zeros 32).take 32
def exB : Bytes := List.replicate 32 7
example : chainOK exH (fun _ => 32) [exB] (fun _ => exB) 3 0 := by
  unfold chainOK; rfl

end Pyctr.C17
