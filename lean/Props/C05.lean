/-
  C05 — CIA archives: section geometry, title key, content selection, content decryption, key isolation.

  Model: PyctrModel/Fmt/Cia.lean (content index, regions), PyctrModel/Engine/Engine.lean (`loadEncryptedTitlekey`,
  `loadFromTicket`, the engine heap).  AES is the parameter pair `E`, `D`.
-/
import Proofs.CbcRefines
import Proofs.CiaProofs
import Proofs.EngineProofs
import Proofs.Sim
import Proofs.SubRefines
namespace Pyctr.C05
open Cia

/-- content index: MSB-first bitmap, every set of indices below 0x10000 round-trips -/
theorem C05_bitmap (s : List Nat) (i : Nat) (hi : i < 0x10000) :
    i ∈ activeContents (encodeIndex s) ↔ i ∈ s := by
  -- bit `i % 8`, counted from the top, of byte `i / 8`
  simp only [activeContents, List.mem_filter, List.mem_range, encodeIndex_length]
  rw [encodeIndex_byte s (i / 8) (Nat.div_lt_of_lt_mul hi), mkByte_test _ (i % 8) (Nat.mod_lt _ (by decide)), Nat.div_add_mod,
    List.contains_iff_mem]
  exact ⟨fun h => h.2, fun h => ⟨hi, h⟩⟩

/-- geometry: every section offset is the sum of the preceding sizes, each rounded up by `roundupNat · 64`: the least multiple
    of 64 not below its argument -/
theorem C05_align (a : Nat) : roundupNat a 64 % 64 = 0 ∧ a ≤ roundupNat a 64 ∧ roundupNat a 64 < a + 64 := by
  unfold roundupNat; omega

/-- title key: recovered from the ticket for every common key (given that AES decryption inverts encryption) -/
theorem C05_titlekey (E D : Bytes → Bytes → Bytes) (hED : ∀ k b, b.length = 16 → D k (E k b) = b) (ck iv tk : Bytes)
    (htk : tk.length = 16) (hiv : iv.length = 16) (hE : ∀ k b, b.length = 16 → (E k b).length = 16) :
    Engine.cbcDecBlocks D ck iv (E ck (xorBytes tk iv)) = tk := titlekey_recovered E D hED hE ck iv tk htk hiv

/-- the common key: a dev engine with common-key index 0 uses the fixed development key (otherwise — retail, and dev for
    index ≠ 0 — the 3DS scrambler of KeyX[0x3D] and the indexed common KeyY: `C10_cdn_key_sources`) -/
theorem C05_commonkey_dev0 (D : Bytes → Bytes → Bytes) (e : Engine) (tk tid : Bytes) (hd : e.dev = true) :
    ((Engine.loadEncryptedTitlekey D e tk 0 tid).1).normal 0x3D = some Engine.devCommonKey0 := by
  rw [Engine.loadEncryptedTitlekey_eq, if_pos ⟨hd, rfl⟩, (Engine.decryptTitlekey_frame D _ tk tid).2.2 0x3D (by decide)]
  exact Engine.upd_self e.normal 0x3D _

/-- **engine history**: the title key a ticket yields (and whether loading it raises) does not depend on anything the engine
    loaded before — other tickets with other common-key indices, the dev index-0 key installed directly as a normal key —
    only on KeyX of the common-key slot and the retail/dev flavour, and no ticket load changes those -/
theorem C05_titlekey_history (D : Bytes → Bytes → Bytes) (e : Engine) (prior : List Bytes) (tk tid : Bytes) (idx x : Nat)
    (hx : e.keyX 0x3D = some x) :
    let e' := prior.foldl (fun g t => (Engine.loadFromTicket D g t).1) e
    (Engine.loadEncryptedTitlekey D e' tk idx tid).2 = (Engine.loadEncryptedTitlekey D e tk idx tid).2 ∧
    ((Engine.loadEncryptedTitlekey D e' tk idx tid).2 = none →
      (Engine.loadEncryptedTitlekey D e' tk idx tid).1.normal 0x40 =
        (Engine.loadEncryptedTitlekey D e tk idx tid).1.normal 0x40) := by
  intro e'
  have hk := Engine.loadFromTicket_foldl_frame D prior e
  exact titlekey_history D e' e tk tid idx hk.2 x (by rw [hk.1]; exact hx) hx

/-- content selection: an active content the TMD lacks is detected -/
theorem C05_missing_detected (active tmdIdx : List Nat) :
    (active.any fun c => !(tmdIdx.filter fun x => active.contains x).contains c) = true ↔
      ∃ c ∈ active, c ∉ tmdIdx := by
  simp only [List.any_eq_true, Bool.not_eq_true', List.contains_eq_mem, decide_eq_false_iff_not, List.mem_filter,
    decide_eq_true_eq, not_and]
  constructor
  · rintro ⟨c, hc, h⟩; exact ⟨c, hc, fun hm => h hm hc⟩
  · rintro ⟨c, hc, h⟩; exact ⟨c, hc, fun hm => absurd hm h⟩

/-- content view: AES-CBC under the title key with IV = content index over the content window decrypts to the
    content bytes at every offset (C02 over C09) -/
theorem C05_content_view (D : Bytes → Bytes) :
    IsReadOnly (CbcIO.ops (Sub.ops PyFile.ops) D)
      (CbcIO.invCbc (Sub.invSub (fun _ => True) PyFile.abs) (Sub.absSub PyFile.abs))
      (CbcIO.absCbc D (Sub.absSub PyFile.abs)) :=
  CbcIO.cbc_isReadOnly D (Sub.sub_isReadable pyfile_isFile.toIsReadable)

/-- content regions, one round of the loop (which moves on to `cur + size`): a record whose index is new gets the region that
    starts at the running offset `cur`, with the IV (index, big-endian, then 14 zero bytes) exactly when it is encrypted -/
theorem C05_content_region (r : Tmd.ChunkRecord) (cur : Nat) (acc : List Region)
    (hfresh : ∀ x ∈ acc, x.sec ≠ (r.cindex : Int)) :
    contentRegions [r] cur acc =
      acc ++ [⟨(r.cindex : Int), cur, r.size, if r.type.encrypted then some (toBE 2 r.cindex ++ zeros 14) else none⟩] := by
  have : acc.any (fun x => x.sec == (r.cindex : Int)) = false := by
    rw [List.any_eq_false]; intro x hx; simpa using hfresh x hx
  rw [contentRegions, contentRegions, setRegion, if_neg (by rw [this]; exact Bool.false_ne_true)]

/-- key isolation at the heap level: nested readers work on clones, so no operation on one reader's engine changes
    another's (C08_clone_indep) -/
theorem C05_isolation (heap : EngineHeap) (i j : Nat) (e' : Engine) (hij : i ≠ j) :
    (heap.set i e')[j]? = heap[j]? := List.getElem?_set_ne hij

end Pyctr.C05
