/-
  C04 — the fully-decrypted NCCH view is one consistent, key-free image of the container.

  Model: PyctrModel/Fmt/Ncch.lean (`classify`, `plan`, `assemble`, `getData`, `fullRead`; the decidable geometry checks
  `regionsApart`, `readGeomB`).  Specification: `fullImage`, `ReadGeom`, `PlanInv` in Proofs/FullReadProofs.lean.
-/
import Proofs.BytesLemmas
import Proofs.FullReadProofs
namespace Pyctr.C04
open Ncch

/-- a chunk that lies in no section is classified as raw pass-through -/
theorem C04_classify_raw (s : State) (chunk : Nat) (h : ∀ sec, inRegion s chunk sec = none) :
    classify s chunk = (secRaw, 0) := by
  simp only [classify, h]

/-- a chunk inside a section is attributed to it, with the section start as base (the classifier tries RomFS,
    ExeFS, header, extended header, logo, plain in that order; for non-overlapping sections at most one matches) -/
theorem C04_classify_romfs (s : State) (chunk : Nat) (r : Region) (h : inRegion s chunk secRomFS = some r) :
    classify s chunk = (secRomFS, r.offset) := by
  simp only [classify, h]

/-- the second section the classifier tries: reached when the chunk is not in the RomFS -/
theorem C04_classify_exefs (s : State) (chunk : Nat) (r : Region) (h0 : inRegion s chunk secRomFS = none)
    (h : inRegion s chunk secExeFS = some r) : classify s chunk = (secExeFS, r.offset) := by
  simp only [classify, h0, h]

/-- membership of a chunk in a region is exactly the half-open interval test -/
theorem C04_inRegion (s : State) (chunk sec : Nat) (r : Region) (hr : s.region? sec = some r) :
    inRegion s chunk sec = if r.offset ≤ chunk ∧ chunk < r.offset + r.size then some r else none := by
  simp only [inRegion, hr, Region.stop]; rfl

/-- keyless re-parse: with the no-crypto flag set (what the fully-decrypted header carries) no key is needed -/
theorem C04_keyless (eng : Engine) (f : Flags) (extraSlot : Nat) (keyY : Bytes) (sy : Option Bytes)
    (h : f.noCrypto = true) : setupExtraKey eng f false extraSlot keyY sy = .ok eng := by
  unfold setupExtraKey
  rw [h, Bool.true_or, if_pos rfl]

/-- the header rewrite of the fully-decrypted view touches exactly bytes 0x18B and 0x18F -/
theorem C04_header_rewrite (d : Bytes) (i : Nat) (hi : i ≠ 0x18B ∧ i ≠ 0x18F) :
    (setByte (setByte d 0x18B 0) 0x18F 4)[i]? = d[i]? := by
  rw [setByte_getElem?_ne _ _ _ _ hi.2, setByte_getElem?_ne _ _ _ _ hi.1]

/-- the decidable geometry criterion implies the disjointness the theorems use -/
theorem C04_apart (s : State) (h : regionsApart s = true) : RegionsDisjoint s := regionsDisjoint_of_apart s h

/-- the planning loop: for non-overlapping sections (`regionsApart`, decidable, evaluated on every generated image) the planned
    pieces stand for exactly the 0x200-byte chunks of the aligned request, in order, each with its dict key and its offset inside
    that key's source; no key occurs twice; every piece is a positive whole number of chunks -/
theorem C04_plan (s : State) (h : regionsApart s = true) (a n : Nat) : PlanInv s a n (plan s a n) :=
  plan_spec s (contig_of_disjoint s (C04_apart s h)) a n

/-- **one consistent image.**  In the regular situation `ReadGeom` (`C04_section_sources` proves its `get_data` clause of the
    plaintexts `secSrc`) EVERY in-range read of the fully-decrypted view — inside a chunk, straddling section boundaries, covering
    gaps, reaching the end — is the corresponding slice of the one image `fullImage` (the chunk-wise concatenation of the section
    plaintexts and pass-through gaps, header crypto flags rewritten). -/
theorem C04_one_image (E : Bytes → Bytes → Bytes) (s : State) (file : Bytes) (start : Nat) (src : Nat → Bytes) (N : Nat)
    (g : ReadGeom E s file start src N) (r : Region) (hr : s.region? secFull = some r) (offset size : Nat) (hs : 0 < size)
    (h1 : offset + size ≤ r.size) (h2 : start + offset + size ≤ file.length) (h3 : offset + size ≤ 0x200 * N) :
    fullRead E s file start offset (size : Int) = .ok (slice (fullImage s src N) offset size) := by
  have hcl : clampFull r file start offset (size : Int) = (size : Int) := by
    unfold clampFull; rw [if_neg (by omega), if_neg (by omega)]
  rw [fullRead_image g r hr offset size size hcl fun _ => h3, if_neg (by omega)]
  rfl

/-- … and for EVERY offset and requested size (negative = "all", past the declared content, past the end of the file): the
    slice of the one image for the clamped byte count, nothing when that count is not positive -/
theorem C04_any_read (E : Bytes → Bytes → Bytes) (s : State) (file : Bytes) (start : Nat) (N : Nat)
    (hg : readGeomB E s file start N = true) (r : Region) (hr : s.region? secFull = some r) (hN : r.size ≤ 0x200 * N)
    (offset : Nat) (size : Int) :
    fullRead E s file start offset size =
      .ok (if clampFull r file start offset size ≤ 0 then []
           else slice (fullImage s (secSrc E s file start) N) offset (clampFull r file start offset size).toNat) :=
  fullRead_image (readGeom_of_readGeomB E s file start N hg) r hr offset size _ rfl fun _ => by
    have := (clampFull_le r file start offset size).1
    omega

/-- hence a read at (offset, length) equals the slice of one whole-image read -/
theorem C04_consistent (E : Bytes → Bytes → Bytes) (s : State) (file : Bytes) (start : Nat) (src : Nat → Bytes) (N : Nat)
    (g : ReadGeom E s file start src N) (r : Region) (hr : s.region? secFull = some r) (hR : 0 < r.size)
    (hfile : start + r.size ≤ file.length) (hN : r.size ≤ 0x200 * N) (offset size : Nat) (hs : 0 < size)
    (h1 : offset + size ≤ r.size) :
    ∃ whole, fullRead E s file start 0 (r.size : Int) = .ok whole ∧ whole.length = r.size ∧
      fullRead E s file start offset (size : Int) = .ok (slice whole offset size) := by
  have hw := C04_one_image E s file start src N g r hr 0 r.size hR (Nat.le_of_eq (Nat.zero_add _)) hfile
    (by rw [Nat.zero_add]; exact hN)
  have hp := C04_one_image E s file start src N g r hr offset size hs h1
    (Nat.le_trans (by rw [Nat.add_assoc]; exact Nat.add_le_add_left h1 start) hfile) (Nat.le_trans h1 hN)
  refine ⟨_, hw, ?_, ?_⟩
  · exact slice_length_of_le _ (by rw [fullImage_length g, Nat.zero_add, Nat.mul_comm]; exact hN)
  · rw [hp, slice_slice _ 0 r.size offset size h1, Nat.zero_add]

/-- `get_data` serves slices of the section plaintext `secSrc` for EVERY section — plain window, CTR-decrypted window, or the
    two-key ExeFS concatenation — so the `get_data` hypothesis of the one-image theorem is discharged, not assumed -/
theorem C04_section_sources (E : Bytes → Bytes → Bytes) (s : State) (file : Bytes) (start : Nat) (sec off sz : Nat) (hsz : 0 < sz)
    (h : off + sz ≤ (secSrc E s file start sec).length) :
    getData E s file start sec off (sz : Int) = .ok (slice (secSrc E s file start sec) off sz) :=
  getData_secSrc E s file start sec off sz hsz h

/-- the `get_data` hypothesis of `C04_one_image` holds outright for containers without encryption (NoCrypto flag, or opened
    with `assume_decrypted` — in particular for the re-parsed fully-decrypted image): the sources are the windows themselves -/
theorem C04_plain_sources (E : Bytes → Bytes → Bytes) (s : State) (file : Bytes) (start : Nat)
    (hplain : (s.assumeDecrypted || s.flags.noCrypto) = true) (sec off sz : Nat) (hsz : 0 < sz)
    (h : off + sz ≤ (plainSrc s file start sec).length) :
    getData E s file start sec off (sz : Int) = .ok (slice (plainSrc s file start sec) off sz) := by
  rw [← secSrc_plain E s file start hplain sec] at h ⊢
  exact C04_section_sources E s file start sec off sz hsz h

/-- **one consistent image, with every hypothesis decidable.**  `readGeomB` (regions apart, every chunk inside its section's
    plaintext, header = chunk 0) is evaluated by the driver on every generated image; when it holds, every in-range read of the
    fully-decrypted view is the slice of the one image built from the section plaintexts -/
theorem C04_one_image_checked (E : Bytes → Bytes → Bytes) (s : State) (file : Bytes) (start : Nat) (N : Nat)
    (hg : readGeomB E s file start N = true) (r : Region) (hr : s.region? secFull = some r) (offset size : Nat) (hs : 0 < size)
    (h1 : offset + size ≤ r.size) (h2 : start + offset + size ≤ file.length) (h3 : offset + size ≤ 0x200 * N) :
    fullRead E s file start offset (size : Int) = .ok (slice (fullImage s (secSrc E s file start) N) offset size) :=
  C04_one_image E s file start _ N (readGeom_of_readGeomB E s file start N hg) r hr offset size hs h1 h2 h3

end Pyctr.C04
