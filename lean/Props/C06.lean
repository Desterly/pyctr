/-
  C06 — RomFS reader reproduces the packed directory tree and file bytes exactly.

  Model: PyctrModel/Fmt/Romfs.lean.
  `lower` (str.lower) is a parameter.  A packed RomFS is characterised by the decidable predicate `repDir`
  ("the metadata tables represent this tree"); the independent builder's images are checked against it on every
  run, and the theorems below then apply to them.
-/
import Proofs.RomfsProofs
import Proofs.SubRefines
namespace Pyctr.C06
open Romfs

/-- the directory walk: any represented tree — any shape, depth, sibling count, names — is reproduced exactly -/
theorem C06_walk (e : Env) (t : Tree) (fuel : Nat) (hrep : repDir e (slice e.dm 0 0x18) t = true)
    (hfuel : needIter t ≤ fuel) (hd : t.numDirs ≤ e.maxDirs) (hf : t.numFiles ≤ e.maxFiles) (hdist : Distinct e t) :
    iterDir e fuel (slice e.dm 0 0x18) ⟨0, 0⟩ = .ok (shapeContents e t, ⟨t.numDirs, t.numFiles⟩) :=
  walk_represented e t fuel hrep hfuel hd hf hdist

/-- the fuel the reader model uses is always enough for a tree that fits the tables (the walk never gives up) -/
theorem C06_fuel (t : Tree) (maxD maxF : Nat) (hd : t.numDirs ≤ maxD) (hf : t.numFiles ≤ maxF) :
    needIter t ≤ 2 * maxD + maxF + 3 := needIter_le t maxD maxF hd hf

/-- bare level 3 at any start offset: listing structure, and data offset `0 + filedata_offset` relative to `start` -/
theorem C06_parse_bare (lower : Str → Str) (ci : Bool) (file : Bytes) (start : Nat) (t : Tree)
    (hmagic : (slice (slice file start 0x5C) 0 4 == [0x49, 0x56, 0x46, 0x43]) = false)
    (hok : headerOK (slice (slice file start 0x5C) 0 0x28))
    (hrep : repDir (envOf lower ci file start 0 (slice (slice file start 0x5C) 0 0x28))
              (slice (envOf lower ci file start 0 (slice (slice file start 0x5C) 0 0x28)).dm 0 0x18) t = true)
    (hd : t.numDirs ≤ (envOf lower ci file start 0 (slice (slice file start 0x5C) 0 0x28)).maxDirs)
    (hf : t.numFiles ≤ (envOf lower ci file start 0 (slice (slice file start 0x5C) 0 0x28)).maxFiles)
    (hdist : Distinct (envOf lower ci file start 0 (slice (slice file start 0x5C) 0 0x28)) t) :
    parse lower ci file start =
      .ok ⟨.dir [0x52, 0x4F, 0x4F, 0x54] (shapeContents (envOf lower ci file start 0 (slice (slice file start 0x5C) 0 0x28)) t),
           0, 0 + u32 (slice (slice file start 0x5C) 0 0x28) 36⟩ :=
  parse_located lower ci file start 0 _ t _ rfl (.inl ⟨hmagic, rfl, rfl⟩) hok hrep hd hf hdist

/-- IVFC-wrapped: level 3 starts at `roundup(0x60 + master hash size, 2^exponent)` (exponent ≤ 0x3F, magic number 0x10000);
    listing structure, and data offset relative to `start` = that offset + filedata_offset -/
theorem C06_parse_ivfc (lower : Str → Str) (ci : Bool) (file : Bytes) (start : Nat) (t : Tree)
    (hmagic : (slice (slice file start 0x5C) 0 4 == [0x49, 0x56, 0x46, 0x43]) = true)
    (hnum : u32 (slice file start 0x5C) 4 = 0x10000) (hbs : ¬ u32 (slice file start 0x5C) 0x4C > 0x3F)
    (off : Nat) (hoff : off = roundupNat (0x60 + u32 (slice file start 0x5C) 8) (2 ^ u32 (slice file start 0x5C) 0x4C))
    (hok : headerOK (slice file (start + off) 0x28))
    (hrep : repDir (envOf lower ci file start off (slice file (start + off) 0x28))
              (slice (envOf lower ci file start off (slice file (start + off) 0x28)).dm 0 0x18) t = true)
    (hd : t.numDirs ≤ (envOf lower ci file start off (slice file (start + off) 0x28)).maxDirs)
    (hf : t.numFiles ≤ (envOf lower ci file start off (slice file (start + off) 0x28)).maxFiles)
    (hdist : Distinct (envOf lower ci file start off (slice file (start + off) 0x28)) t) :
    parse lower ci file start =
      .ok ⟨.dir [0x52, 0x4F, 0x4F, 0x54] (shapeContents (envOf lower ci file start off (slice file (start + off) 0x28)) t),
           off, off + u32 (slice file (start + off) 0x28) 36⟩ :=
  parse_located lower ci file start off _ t _ rfl (.inr ⟨hmagic, hnum, hbs, hoff, rfl⟩) hok hrep hd hf hdist

/-- opening a file gives the window `[start + data_offset + entry offset, + size)`: exactly its bytes, nothing beyond (C09) -/
theorem C06_file_window (p : Parsed) (start : Nat) (n : Str) (off size : Nat) :
    fileWindow p start (.file n off size) = .ok (start + p.dataOffset + off, size) := rfl

theorem C06_file_bytes (buf : Bytes) (lo size : Nat) (h : lo + size ≤ buf.length) :
    Sub.invSub (fun _ => True) PyFile.abs ⟨⟨buf, 0⟩, lo, size, 0⟩ ∧
    (Sub.absSub PyFile.abs ⟨⟨buf, 0⟩, lo, size, 0⟩).content = slice buf lo size :=
  ⟨⟨trivial, by simpa [PyFile.abs] using h⟩, rfl⟩

/-- opening a directory raises the is-a-directory error -/
theorem C06_isdir (p : Parsed) (start : Nat) (n : Str) (cs : List (Str × PNode)) :
    fileWindow p start (.dir n cs) = .error (.other "RomFSIsADirectoryError") := rfl

/-- case-insensitive mode: every case variant (same lower-casing) resolves to the same entry -/
theorem C06_case_insensitive (lower : Str → Str) (root : PNode) (p q : Str) (hp : p ≠ [0x2E]) (hq : q ≠ [0x2E])
    (h : lower p = lower q) : getRawInfo lower true root p = getRawInfo lower true root q := by
  have h1 : (p == [0x2E]) = false := beq_false_of_ne hp
  have h2 : (q == [0x2E]) = false := beq_false_of_ne hq
  simp only [getRawInfo, h1, h2, Bool.false_eq_true, if_false, if_true, h]

/-- case-sensitive mode: lookups do not depend on `lower` at all — components are matched by exact spelling … -/
theorem C06_case_sensitive (l1 l2 : Str → Str) (root : PNode) (p : Str) :
    getRawInfo l1 false root p = getRawInfo l2 false root p := by
  simp [getRawInfo]

/-- … and a component that names nothing raises the not-found error -/
theorem C06_missing (n : Str) (cs : List (Str × PNode)) (part : Str) (rest : List Str) (hne : part ≠ [])
    (h : ∀ kv ∈ cs, kv.1 ≠ part) : walkParts (.dir n cs) (part :: rest) = .error (.other "RomFSFileNotFoundError") := by
  have h1 : (part == []) = false := beq_false_of_ne hne
  have h2 : cs.find? (·.1 == part) = none := by
    rw [List.find?_eq_none]; intro kv hkv; simpa using h kv hkv
  simp [walkParts, h1, h2]

end Pyctr.C06
