/-
  C03 — every NCCH section view yields the section plaintext under every crypto scheme.

  Model: PyctrModel/Fmt/Ncch.lean (`slotsOf`, `seededKeyY`, `setupExtraKey`, `buildRanges`, `openGeneric`, `mergedBytes`).
  Specification: `SortedFrom`, `Tiles`, `colourAt`, `inExtra` in Proofs/NcchViews.lean.
  `E key block` is AES-128, `H` SHA-256 (parameters).  The window and the CTR wrapper are C09 / C01; this file adds the
  NCCH-specific decision logic.
-/
import Proofs.BytesLemmas
import Proofs.CtrRefines
import Proofs.EngineProofs
import Proofs.NcchViews
import Proofs.Sim
import Proofs.SubRefines
import Proofs.XorStream
namespace Pyctr.C03
open Ncch

/-- keyslot table: fixed key ⇒ zero key (0x41) or system key (0x42) by bit 36 of the program id, for both slots … -/
theorem C03_slots_fixed (f : Flags) (prog : Nat) (h : f.fixedKey = true) :
    slotsOf f prog = .ok (if prog &&& (0x10 <<< 32) != 0 then (0x42, 0x42) else (0x41, 0x41)) := by
  simp only [slotsOf, h, if_true]; split <;> rfl

/-- … otherwise primary slot 0x2C and the secondary slot of the crypto method (unknown method: KeyError) -/
theorem C03_slots_normal (f : Flags) (prog : Nat) (h : f.fixedKey = false) :
    slotsOf f prog = match extraSlotOf f.cryptoMethod with
      | some x => .ok (0x2C, x)
      | none => .error .keyError := by
  unfold slotsOf; simp only [h, Bool.false_eq_true, if_false]; rfl

/-- the table `extra_cryptoflags`: crypto methods 0x00, 0x01 (7.x), 0x0A (New 3DS 9.3), 0x0B (New 3DS 9.6) and their keyslots -/
theorem C03_method_table :
    extraSlotOf 0 = some 0x2C ∧ extraSlotOf 1 = some 0x25 ∧ extraSlotOf 0xA = some 0x18 ∧ extraSlotOf 0xB = some 0x1B := by
  decide

/-- a seed that does not match the header's verification hash is refused; a matching one yields
    KeyY' = SHA-256(KeyY ++ seed)[:16] -/
theorem C03_seed (H : Bytes → Bytes) (keyY : Bytes) (prog : Nat) (verify seed : Bytes) :
    seededKeyY H true keyY prog verify (some seed) =
      if slice (H (seed ++ toLE 8 prog)) 0 4 != verify then .error (.other "NCCHSeedError")
      else .ok (some (slice (H (keyY ++ seed)) 0 16)) := rfl

/-- seed crypto without a seed (none given, none in the seed database): `MissingSeedError` -/
theorem C03_seed_missing (H : Bytes → Bytes) (keyY : Bytes) (prog : Nat) (verify : Bytes) :
    seededKeyY H true keyY prog verify none = .error (.other "MissingSeedError") := rfl

/-- the secondary normal key (slot 0x44) is the 3DS scrambler of KeyX of the secondary slot and the (seeded) KeyY -/
theorem C03_extra_key (eng : Engine) (f : Flags) (extraSlot x : Nat) (keyY : Bytes) (sy : Option Bytes)
    (hnc : f.noCrypto = false) (hfx : f.fixedKey = false) (hx : eng.keyX extraSlot = some x) :
    ∃ e', setupExtraKey eng f false extraSlot keyY sy = .ok e' ∧
      e'.normal 0x44 = some (keygen3ds x (readBE (sy.getD keyY))) := by
  refine ⟨(eng.setKeyslot true 0x44 x true).setKeyslotBytes false 0x44 (sy.getD keyY) true, ?_, ?_⟩
  · unfold setupExtraKey
    rw [hnc, hfx, hx]
    rfl
  · have hx44 : (eng.setKeyslot true 0x44 x true).keyX 0x44 = some x := by
      rw [Engine.setKeyslot_keyX, if_pos rfl]; exact Engine.upd_self ..
    rw [Engine.setKeyslotBytes, Engine.setY_normal _ _ _ x hx44]
    rfl   -- slot 0x44 is not a DSi slot: the 3DS formula on the big-endian key

/-- the ExeFS range list: for sorted, non-overlapping secondary-key intervals inside the ExeFS it tiles the region … -/
theorem C03_ranges_tile (size : Nat) (ex : List (Nat × Nat)) (hs : SortedFrom 0 ex) (hin : ∀ iv ∈ ex, iv.2 ≤ size) :
    Tiles (buildRanges ex size) 0 size := rangesFrom_tiles size ex 0 hs hin (Nat.zero_le _)

/-- … and colours a byte "secondary key" exactly when it lies in one of the intervals (adjacent secondary-key files,
    empty files and files that are exact multiples of the media unit included) -/
theorem C03_ranges_colour (size : Nat) (ex : List (Nat × Nat)) (p : Nat) (hs : SortedFrom 0 ex) (hp : p < size)
    (hin : ∀ iv ∈ ex, iv.2 ≤ size) : colourAt (buildRanges ex size) p = some (inExtra ex p) :=
  rangesFrom_colour size ex 0 hs hin p (Nat.zero_le _) hp

/-- the merged ExeFS view, byte by byte: ciphertext XOR the keystream byte at the byte's position in the region
    (counter running continuously), under the key its range dictates -/
theorem C03_exefs_bytes (E : Bytes → Bytes → Bytes) (file : Bytes) (off size iv : Nat) (km ke : Bytes)
    (l : List KRange) (ht : Tiles l 0 size) (hsz : (slice file off size).length = size) (p : Nat) (hp : p < size) :
    (mergedBytes E file off size iv (l.map fun g => (if g.extra then ke else km, g.lo, g.hi)) 0 size)[p]? =
      ((slice file off size)[p]?).map (· ^^^ ksByte (E (if (colourAt l p).getD false then ke else km)) iv p) := by
  simp only [mergedBytes, slice_getElem?, hp, if_true, Nat.zero_add, List.flatMap_map, ctrAt_xorWith, ← slice_xorWith]
  have := tiled_getElem? (fun c => xorWith (ksByte (E (if c then ke else km)) iv) 0 (slice file off size)) size
    (fun c => (xorWith_length _ _ _).trans hsz) l 0 size ht (Nat.le_refl _) p (Nat.zero_le p) hp
  rw [Nat.sub_zero] at this
  rw [this, xorWith_getElem?, Nat.zero_add, slice_getElem?, if_pos hp]

/-- ExtHeader / RomFS / plain ExeFS views: a CTR wrapper over the section window is the whole-section decryption,
    at every offset and length (C01 over C09) -/
theorem C03_ctr_view (E : Bytes → Bytes) :
    IsReadable (CtrIO.ops (Sub.ops PyFile.ops) E)
      (CtrIO.invCtr (Sub.invSub (fun _ => True) PyFile.abs) (Sub.absSub PyFile.abs))
      (CtrIO.absCtr E (Sub.absSub PyFile.abs)) :=
  CtrIO.ctr_isReadable E (Sub.sub_isReadable pyfile_isFile.toIsReadable)

/-- flagged unencrypted / assume-decrypted: every section view is the plain window; no key enters -/
theorem C03_plain_modes (s : State) (start sec : Nat) (r : Region) (hs : s.section? sec = some r)
    (h : s.assumeDecrypted = true ∨ s.flags.noCrypto = true) :
    openGeneric s start sec = .ok (.window (start + r.offset) r.size) := by
  unfold openGeneric
  rcases h with h | h <;> simp [hs, h]

/-- non-vacuity: two adjacent secondary-key files followed by `icon` -/
example : buildRanges [(0x200, 0x600), (0x600, 0x630)] 0xA00 =
    [⟨0, 0x200, false⟩, ⟨0x200, 0x600, true⟩, ⟨0x600, 0x630, true⟩, ⟨0x630, 0xA00, false⟩] := by decide

end Pyctr.C03
