/-
  C19 — no input makes a reader hang or consume unbounded resources.

  What is PROVED here are the loops whose trip count is driven by on-disk values, on the models that the other checks tie to
  pyctr: the RomFS metadata walk, the backward LZSS decoder, the seed-database loader, the chunk planner of the
  fully-decrypted NCCH view; and the sizes of what the TMD, NCSD, ExeFS and CIA-index parsers build.  Every model function is
  total (Lean's termination checker); where a fuel parameter stands in for a `while` loop, a theorem shows the fuel is never
  what stops it.  For the remaining readers the bound is measured (line-event budget), see DESIGN.md §C19.
  Models: PyctrModel/Fmt/Romfs.lean, Lzss.lean, Codecs.lean (seed database), Ncch.lean; Tmd.lean, Cci.lean, Exefs.lean, Cia.lean for
  the sizes.
-/
import PyctrModel.Fmt.Codecs
import Proofs.BytesLemmas
import Proofs.CostProofs
import Proofs.FullReadProofs
namespace Pyctr.C19

/-- RomFS: the walk visits at most `dirmeta.size / 0x18` directory entries and `filemeta.size / 0x20` file entries; sibling /
    child links that revisit an entry (cycles, self-references) hit the counter and come back as `RomFSEntryError` -/
theorem C19_romfs_walk (e : Romfs.Env) (fuel : Nat) :
    (∀ raw c out c', Romfs.Bnd e c → Romfs.iterDir e fuel raw c = .ok (out, c') → Romfs.Bnd e c') ∧
    (∀ off acc c out c', Romfs.Bnd e c → Romfs.dirLoop e fuel off acc c = .ok (out, c') → Romfs.Bnd e c') ∧
    (∀ off acc c out c', Romfs.Bnd e c → Romfs.fileLoop e fuel off acc c = .ok (out, c') → Romfs.Bnd e c') :=
  ⟨Romfs.iterDir_bounded e fuel, Romfs.dirLoop_bounded e fuel, Romfs.fileLoop_bounded e fuel⟩

/-- ... and those caps are at most `len(file) / 0x18` and `len(file) / 0x20`: they are counted from the table bytes actually
    read, whatever table size the header claims -/
theorem C19_romfs_caps (lower : Romfs.Str → Romfs.Str) (ci : Bool) (file : Bytes) (base dmo dms fmo fms : Nat) :
    (Romfs.mkEnv lower ci file base dmo dms fmo fms).maxDirs * 0x18 ≤ file.length ∧
    (Romfs.mkEnv lower ci file base dmo dms fmo fms).maxFiles * 0x20 ≤ file.length := by
  -- what was read of a table is a slice of the file
  have h : ∀ n a k : Nat, min n (file.length - a) / k * k ≤ file.length := fun _ _ _ =>
    Nat.le_trans (Nat.div_mul_le_self _ _) (Nat.le_trans (Nat.min_le_right _ _) (Nat.sub_le _ _))
  simp only [Romfs.mkEnv, slice_length]
  exact ⟨h _ _ _, h _ _ _⟩

/-- LZSS: the input pointer only moves backwards inside a control byte's eight items … -/
theorem C19_lzss_items (cs de ctrl i : Nat) (s s' : Lzss.St) (h : Lzss.items cs de ctrl i s = .ok s') : s'.pin ≤ s.pin :=
  Lzss.items_pin_le cs de ctrl i s s' h

/-- … so the decoder's `while` loop runs at most `ptr_in - comp_start` (≤ the input length) times: once the fuel covers that
    distance, more fuel changes nothing, and the model's fuel (the length of the input) is never what stops it -/
theorem C19_lzss_terminates (cs de : Nat) (f : Nat) (s : Lzss.St) (h : s.pin - cs ≤ f) (k : Nat) :
    Lzss.outer cs de (f + k) s = Lzss.outer cs de f s := Lzss.outer_add_fuel cs de f s h k

/-- seed database: the loader never accepts more entries than the file holds, whatever the count field says -/
theorem C19_seeddb (f : Bytes) (es : List (Nat × Bytes)) (h : SeedDb.loadEntries f = some es) :
    0x20 * es.length + 0x10 ≤ max f.length 0x10 := by
  unfold SeedDb.loadEntries at h
  simp only at h
  split at h
  · simp only [Option.some.injEq] at h
    rw [← h, List.length_map, List.length_range]
    omega
  · cases h

/-- NCCH, fully-decrypted view: a read of ANY (offset, size) is the assembly of a plan of `fullChunks` chunks, and that number
    times 0x200 is at most the length of the file plus one chunk - whatever content size the header claims (a 16-TiB claim in
    a 1-KiB file plans at most two chunks); the plan has at most that many pieces -/
theorem C19_ncch_full_read (E : Bytes → Bytes → Bytes) (s : Ncch.State) (file : Bytes) (start offset : Nat) (size : Int)
    (r : Ncch.Region) (hr : s.region? Ncch.secFull = some r) :
    (∃ before cutEnd lastKey,
      Ncch.fullRead E s file start offset size =
        if Ncch.fullChunks r.size file.length start offset size = 0 then .ok []
        else Ncch.assemble (Ncch.getData E s file start) before cutEnd lastKey
               (Ncch.plan s (offset - offset % 0x200) (Ncch.fullChunks r.size file.length start offset size))) ∧
    Ncch.fullChunks r.size file.length start offset size * 0x200 ≤ file.length + 0x1FF ∧
    (Ncch.plan s (offset - offset % 0x200) (Ncch.fullChunks r.size file.length start offset size)).length
      ≤ Ncch.fullChunks r.size file.length start offset size :=
  ⟨Ncch.fullRead_plan E s file start offset size r hr, Ncch.fullChunks_bound _ _ _ _ _, Ncch.plan_length s _ _⟩

/-- **what a parser builds is bounded**: a loaded TMD holds fewer than 2^16 content records and at most 64 info records, a
    cartridge header at most 8 partitions, an ExeFS header at most 10 entries, and a CIA content index of `n` bytes marks at
    most `8 n` contents - so a full traversal of what was parsed is bounded by a constant of the format, whatever the counts
    and sizes inside the input claim -/
theorem C19_parsed_sizes :
    (∀ (H : Bytes → Bytes) (v : Bool) (b : Bytes) (t : Tmd.T), Tmd.load H v b = .ok t →
      t.chunkRecords.length < 65536 ∧ t.infoRecords.length ≤ 64) ∧
    (∀ h : Bytes, (Cci.partsOf h).length ≤ 8) ∧
    (∀ (hdr : Bytes) (es : List Exefs.Entry), Exefs.parse hdr = .ok es → es.length ≤ 10) ∧
    (∀ index : Bytes, (Cia.activeContents index).length ≤ 8 * index.length) :=
  ⟨Tmd.load_sizes, Cci.partsOf_length_le, Exefs.parse_length_le, Cia.activeContents_length_le⟩

end Pyctr.C19
