/-
  C16 — closing is complete, contained, idempotent and respects file ownership.

  Model: PyctrModel/Sys/Close.lean — every reader, handle and wrapper as an object with a `closed` flag and static fields that
  transcribe its class; `closeObj` = `close()`, `ioObj` = an I/O call (ValueError or not, with the latching check).  The
  exhaustive configuration matrix ties the per-class field values (`mkReader`, `openHandle`, …) to pyctr; the theorems below
  hold for every heap, so they do not depend on that transcription being the right one.
-/
import Proofs.CloseProofs
namespace Pyctr.C16
open Close

/-- nothing is ever reopened and nothing but `closed` flags ever changes — by any close … -/
theorem C16_close_monotone (n : Nat) (H : Heap) (i : Nat) : heapLe H (closeObj n H i) := heapLe_closeObj n H i

/-- … or by any I/O call (whose closed-check latches) -/
theorem C16_io_monotone (n : Nat) (H : Heap) (i : Nat) (op : IoOp) : heapLe H (ioObj n H i op).2 :=
  (ioObj_within n H i op).1

/-- a `close()` sets the object's own flag, whatever its class and whatever was closed before (so closing twice, or closing
    handles in any order, leaves every closed object closed) -/
theorem C16_close_sets_flag (n : Nat) (H : Heap) (i : Nat) : closedAt (closeObj (n + 1) H i) i := by
  cases hi : H[i]? with
  | none =>
    rw [closeObj, hi]
    exact fun o ho => nomatch hi.symm.trans ho
  | some o =>
    rw [closeObj_succ n hi]
    split
    -- a reader closed before: nothing changes, and its flag is set
    · rename_i h
      intro o' ho'
      obtain rfl := Option.some.inj (hi.symm.trans ho')
      exact (Bool.and_eq_true _ _ ▸ h).2
    -- otherwise the flag is set first; then the flush raises, or the children are closed, which lowers no flag
    · split
      · exact closedAt_set _ i _ rfl
      · exact closedAt_mono (heapLe_foldl _ (C16_close_monotone n) _ _) (closedAt_set _ i _ rfl)

/-- **use after close**: an object whose flag is set raises ValueError on a data call and on a position-only call alike -/
theorem C16_use_after_close (n : Nat) (H : Heap) (i : Nat) (op : IoOp) (o : Obj) (hi : H[i]? = some o) (hc : o.closed = true) :
    (ioObj (n + 1) H i op).1 = true :=
  ioObj_raises n op hi ((objLe_afterCheck H o).2 hc)

/-- … and so does a handle whose underlying object (`_reader`) has been closed, even if nobody closed the handle itself -/
theorem C16_use_after_inner_close (n : Nat) (H : Heap) (i j : Nat) (op : IoOp) (o oj : Obj) (hi : H[i]? = some o)
    (hl : o.look = some j) (hj : H[j]? = some oj) (hc : oj.closed = true) : (ioObj (n + 1) H i op).1 = true := by
  refine ioObj_raises n op hi ?_
  unfold afterCheck latched
  rw [hl]; simp only [hj, Option.map_some, Option.getD_some, hc, if_true]

/-- **complete (one level)**: closing a reader that is not already closed closes every handle, nested reader, base wrapper and
    partition it tracks; with `C16_use_after_close` every further call on them raises.  (The model's transitive behaviour is
    compared with pyctr by the matrix.) -/
theorem C16_complete (n : Nat) (H : Heap) (r : Nat) (o : Obj) (hr : H[r]? = some o)
    (hfresh : (o.closeOnce && o.closed) = false) (hfl : (flushStep (n + 1) H o).1 = false) (t : Nat) (ht : t ∈ o.tracked)
    (hlt : t < H.length) : closedAt (closeObj (n + 2) H r) t := by
  have _ := hlt   -- not needed: `closedAt` holds of every index out of range
  rw [closeObj_succ _ hr, hfresh, hfl]
  exact (foldl_closedAt (C16_close_monotone (n + 1)) (fun _ => True) (fun k j => j = k) (kids o)
    (fun F k _ _ => ⟨trivial, fun j hj => hj ▸ C16_close_sets_flag n F k⟩) _ trivial).2 t
    (List.mem_append_right _ ht) t rfl

/-- **complete at every level**: in an acyclic close graph (a ranking `rk` strictly decreasing along "owns when closefd" and
    "tracks" edges) without flushing wrappers, with fuel above the object's rank, `close()` leaves everything below the object
    closed, handles of nested readers of nested readers included, provided readers below it that were closed earlier had
    everything below them closed (`GoodOn`).  The proviso holds of every object in a world where no reader is closed
    (`fresh_of_b`), and the `close()` keeps it for the object it closes (second conclusion) -/
theorem C16_complete_all_levels (rk : Nat → Nat) (n : Nat) (H : Heap) (i : Nat) (hr : Ranked rk H) (hn : NoFlush H)
    (hfuel : rk i < n) (hgood : GoodOn H i) :
    (∀ j, Desc H i j → closedAt (closeObj n H i) j) ∧ GoodOn (closeObj n H i) i := by
  obtain ⟨h1, h2⟩ := close_all_in rk n H i (Desc H i) hr hn hfuel (fun _ h => h) (goodOn_iff.mp hgood)
  -- `GoodOn` of the later heap speaks of what is below `i` there: the same objects
  exact ⟨h1, goodOn_iff.mpr fun i' o' hd => h2 i' o' ((C16_close_monotone n H i).desc_iff.mpr hd)⟩

/-- **idempotent**: closing a reader twice is the same as closing it once -/
theorem C16_idempotent (n m : Nat) (H : Heap) (r : Nat) (o : Obj) (hr : H[r]? = some o) (hco : o.closeOnce = true) :
    closeObj (m + 1) (closeObj (n + 1) H r) r = closeObj (n + 1) H r := by
  obtain ⟨b, hb, _⟩ := (C16_close_monotone (n + 1) H r).get hr
  rw [closeObj_succ m hb, if_pos]
  exact Bool.and_eq_true _ _ ▸ ⟨hco, C16_close_sets_flag n H r _ hb⟩

/-- **contained / ownership**: a `close()` changes no object outside `reach` — the object itself, what it owns *if* `closefd`,
    what it tracks, recursively.  Hence closing a handle never touches a sibling handle or its reader, and a file that is
    owned only through a `closefd = false` edge stays open. -/
theorem C16_contained (n : Nat) (H : Heap) (i j : Nat) (hj : j ∉ reach n H i) : (closeObj n H i)[j]? = H[j]? :=
  (closeObj_within n H i).2 j hj

/-- an I/O call latches only the object and what it reads through -/
theorem C16_io_contained (n : Nat) (H : Heap) (i : Nat) (op : IoOp) (j : Nat) (hj : j ∉ ioReach n H i) :
    (ioObj n H i op).2[j]? = H[j]? := (ioObj_within n H i op).2 j hj

/-! the transcribed graphs: ownership and containment on a representative world -/

/-- an NCCH (two-key ExeFS) over a caller's file object, default closefd, with a RomFS handle and an ExeFS-file handle -/
def exWorld : World :=
  let w : World := (({} : World).alloc "f" rawFile).1
  let w := (w.mkReader "ncch-split" "r" (.obj "f") none).getD w
  let w := (w.openHandle "r" "raw-romfs" "h0").getD w
  (w.openHandle "r.exefs" "open" "h1").getD w

def exId (n : String) : Nat := (exWorld.id? n).getD 0

/-- the caller's file is outside the reach of the reader's close (default closefd on a file object): it stays open -/
example : exId "f" ∉ reach 12 exWorld.heap (exId "r") := by decide +kernel
/-- … and both handles are inside it -/
example : exId "h0" ∈ reach 12 exWorld.heap (exId "r") ∧ exId "h1" ∈ reach 12 exWorld.heap (exId "r") := by decide +kernel
/-- closing one handle reaches neither its sibling nor the reader nor the file -/
example : exId "h1" ∉ reach 12 exWorld.heap (exId "h0") ∧ exId "r" ∉ reach 12 exWorld.heap (exId "h0") ∧
    exId "f" ∉ reach 12 exWorld.heap (exId "h0") := by decide +kernel
/-- after the reader is closed, a position-only call on the nested reader's handle raises -/
example : (ioObj 12 (closeObj 12 exWorld.heap (exId "r")) (exId "h1") .tell).1 = true := by decide +kernel

/-- the transcribed NCCH world meets the side conditions of `C16_complete_all_levels`; the ranks are the values of the model's
    `depthRank 12 exWorld.heap` (1 + the longest chain of kids below the object), written out so that the evaluations below need
    not compute them … -/
def exRank (i : Nat) : Nat := [1, 3, 1, 2, 1, 1, 1, 1, 1, 1, 1, 2, 2, 1, 2, 1, 1, 2, 1].getD i 0
example : rankedB exRank exWorld.heap = true ∧ noFlushB exWorld.heap = true ∧ freshB exWorld.heap = true := by decide +kernel
/-- … so closing the reader closes the handle of its nested ExeFS reader (two levels down) -/
example : closedAt (closeObj 12 exWorld.heap (exId "r")) (exId "h1") := by
  -- all that is asked of the concrete heap, in one evaluation: r tracks the nested ExeFS reader (object 12), which tracks h1
  have ⟨hrk, hnf, hfr, hfuel, ⟨hr, hk1⟩, ⟨h12, hk2⟩⟩ :
      rankedB exRank exWorld.heap = true ∧ noFlushB exWorld.heap = true ∧ freshB exWorld.heap = true ∧
      exRank (exId "r") < 12 ∧
      (∃ h : exId "r" < exWorld.heap.length, 12 ∈ kids exWorld.heap[exId "r"]) ∧
      (∃ h : 12 < exWorld.heap.length, exId "h1" ∈ kids exWorld.heap[12]) := by decide +kernel
  exact (C16_complete_all_levels exRank 12 _ _ (ranked_of_b _ _ hrk) (noFlush_of_b _ hnf) hfuel (fresh_of_b _ hfr _)).1 _
    (.step (List.getElem?_eq_getElem hr) hk1 (.step (List.getElem?_eq_getElem h12) hk2 (.refl _)))

end Pyctr.C16
