/-
  C11 — title metadata: parse/serialise are inverse and every record is hash-protected.

  Model: PyctrModel/Fmt/Tmd.lean (`load`, `serialize`).
  `H` is SHA-256 (a parameter).  A well-formed TMD is the serialisation of a well-formed value `WFv`
  (every signature type, any title id / version / save sizes / reserved bytes, up to 64 info records, any chunk
  records); equality of the model's `serialize` with what an independent 3dbrew-layout builder produces is part
  of the correspondence check.
-/
import Proofs.BytesLemmas
import Proofs.TmdRecords
import Proofs.TmdRoundtrip
namespace Pyctr.C11
open Tmd

/-- serialising then parsing reproduces an equal object -/
theorem C11_serialize_parse (H : Bytes → Bytes) (t : T) (sz pad : Nat) (w : WFv H t sz pad) :
    ∃ b, serialize H t = some b ∧ load H true b = .ok t :=
  ⟨_, (load_serialize H t sz pad w).1, (load_serialize H t sz pad w).2⟩

/-- parsing then serialising reproduces the input bytes (for every byte string that is a well-formed TMD) -/
theorem C11_parse_serialize (H : Bytes → Bytes) (t : T) (sz pad : Nat) (w : WFv H t sz pad) (b : Bytes)
    (hb : serialize H t = some b) : ∃ t', load H true b = .ok t' ∧ serialize H t' = some b := by
  obtain ⟨b₀, hs, hl⟩ := C11_serialize_parse H t sz pad w
  obtain rfl : b₀ = b := Option.some.inj (hs.symm.trans hb)
  exact ⟨t, hl, hs⟩

/-- title-version and content-type flag words (the two bit-packed 16-bit fields) -/
theorem C11_version_word (w : Nat) (h : w < 65536) : Version.toInt (Version.ofInt w) = w := Version.toInt_ofInt w h
theorem C11_flags_value (f : TypeFlags) : TypeFlags.ofInt f.toInt = f := f.ofInt_toInt

/-- no modification of the content-info block can make loading succeed: a TMD that serialises a well-formed value and is
    then changed inside the 0x900-byte block, and nowhere else, fails with the hash error (unless SHA-256 collides) -/
theorem C11_tamper_info (H : Bytes → Bytes) (t : T) (sz pad : Nat) (w : WFv H t sz pad) (b' : Bytes)
    (hlen : b'.length = (segments H t sz pad).flatten.length)
    (hout : ∀ i, (i < 4 + sz + pad + 0xC4 ∨ 4 + sz + pad + 0xC4 + 0x900 ≤ i) → b'[i]? = (segments H t sz pad).flatten[i]?)
    (hdiff : b' ≠ (segments H t sz pad).flatten) :
    load H true b' = .error (.other "InvalidHashError") ∨ Collision H := by
  have hsig : sigInfo (readBE (slice (segments H t sz pad).flatten 0 4)) = some (sz, pad) := by
    have e : slice (segments H t sz pad).flatten 0 (toBE 4 t.sigType).length = toBE 4 t.sigType :=
      (laid_flatten (segments H t sz pad)).1
    rw [toBE_length] at e
    rw [e, readBE_toBE 4 _ (sigInfo_lt _ _ _ w.sig)]; exact w.sig
  have hbl : (segments H t sz pad).flatten.length = _ :=
    segments_eq_segsWith H t sz pad ▸
      segsWith_length H t sz pad _ (infoBlock_length t.infoRecords w.infos w.infos_len) (chunks_length t.chunkRecords w.chunks)
  exact tamper_info_of_load H _ b' t sz pad _ rfl (load_serialize H t sz pad w).2 hsig (by rw [hbl]; omega) hlen hout hdiff

/-- no modification of the chunk records can make loading succeed with a covered record that differs from the
    original (unless SHA-256 collides): the chunk-record area is replaced by arbitrary bytes `raw` -/
theorem C11_tamper_chunk (H : Bytes → Bytes) (t : T) (sz pad : Nat) (w : WFv H t sz pad) (raw : Bytes)
    (hraw : raw.length = 0x30 * t.chunkRecords.length) :
    (∃ e, load H true (segsWith H t sz pad raw).flatten = .error e) ∨
    (∃ t', load H true (segsWith H t sz pad raw).flatten = .ok t' ∧ t'.infoRecords = t.infoRecords ∧
        ∀ ir ∈ t.infoRecords, covered t'.chunkRecords ir = covered t.chunkRecords ir) ∨
    Collision H := by
  rw [load_segsWith H t sz pad w raw hraw]
  cases hv : verifyInfo H (chunkList raw t.chunkRecords.length 0) t.infoRecords [] with
  | error e => exact Or.inl ⟨e, rfl⟩
  | ok u =>
    cases u
    refine .inr ((covered_eq_of_verify H _ _ _ (chunkList_length raw _ 0) w.chunks (chunkList_wf raw _ 0 (by omega)) w.verified
      hv).imp (fun h => ⟨_, rfl, rfl, h⟩) id)

/-- the untampered serialisation is the case `raw = the original chunk area` -/
theorem C11_segsWith_orig (H : Bytes → Bytes) (t : T) (sz pad : Nat) :
    segments H t sz pad = segsWith H t sz pad (t.chunkRecords.flatMap ChunkRecord.bytes) := segments_eq_segsWith H t sz pad

/-- non-vacuity: a TMD with three chunk records covered by two info records (and bytes >= 0x80 in the
    single-byte header fields) is well-formed -/
def exT : T :=
  { sigType := 0x10004, signature := List.replicate 0x100 0xFF, issuer := [0x52, 0x6F, 0x6F, 0x74],
    version := 0x80, caCrl := 0xFF, signerCrl := 0, reserved1 := 0x81,
    systemVersion := List.replicate 8 1, titleId := [0, 4, 0x80, 0, 1, 2, 3, 4], titleType := List.replicate 4 2,
    groupId := [9, 9], saveSize := 0xFFFFFFFF, srlSaveSize := 0, reserved2 := List.replicate 4 3, srlFlag := 0xFE,
    reserved3 := List.replicate 0x31 0x99, accessRights := List.replicate 4 4, titleVersion := ⟨63, 63, 15⟩,
    bootCount := [5, 5], padding := [6, 6],
    infoRecords := [⟨0, 2, List.replicate 32 0⟩, ⟨2, 1, List.replicate 32 0⟩],
    chunkRecords := [⟨[0, 0, 0, 1], 0, ⟨true, false, false, false, false⟩, 0x1000, List.replicate 32 0xA1⟩,
                     ⟨[0, 0, 0, 2], 1, ⟨true, false, false, true, false⟩, 0x2000, List.replicate 32 0xA2⟩,
                     ⟨[0, 0, 0, 3], 2, ⟨false, false, false, false, true⟩, 0, List.replicate 32 0xA3⟩] }

example : WFv (fun _ => List.replicate 32 0) exT 0x100 0x3C where
  sig := rfl
  sig_len := List.length_replicate
  issuer_len := by decide
  issuer_ascii := by decide
  issuer_nonul := by intro b h; cases h; decide
  pk := by decide
  l_sysver := List.length_replicate
  l_tid := rfl
  l_ttype := List.length_replicate
  l_gid := rfl
  l_r2 := List.length_replicate
  l_r3 := List.length_replicate
  l_ar := List.length_replicate
  l_boot := rfl
  l_pad := rfl
  ver := by decide
  chunks := by
    intro c hc
    simp only [exT, List.mem_cons, List.not_mem_nil, or_false] at hc
    rcases hc with rfl | rfl | rfl <;> exact ⟨by decide, by decide, by decide, by decide⟩
  infos := by
    intro r hr
    simp only [exT, List.mem_cons, List.not_mem_nil, or_false] at hr
    rcases hr with rfl | rfl <;> exact ⟨by decide, by decide, by decide, by decide⟩
  infos_len := by decide
  hH := rfl
  verified := rfl

end Pyctr.C11
