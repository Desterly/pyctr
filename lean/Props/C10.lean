/-
  C10 — CCI, CDN and SD-title containers expose exactly the NCCHs packed in them.

  Model: PyctrModel/Fmt/Cci.lean (`Cci`, `Cdn`, `SdTitle`).  Specification: `Cci.relevant` in Proofs/CiaProofs.lean.
  The data planes (windows, CBC contents, SD CTR files, nested NCCH readers) are C09 / C02 / C14 / C03; this file
  holds the container-specific logic.
-/
import PyctrModel.Fmt.Cci
import Proofs.BytesLemmas
import Proofs.CbcRefines
import Proofs.CiaProofs
import Proofs.Sim
import Proofs.SubRefines
namespace Pyctr.C10

/-- a cartridge image whose magic is wrong, or whose media id is zero (a NAND header), is rejected -/
theorem C10_cci_reject (file : Bytes) (start : Nat)
    (h : slice (slice file (start + 0x100) 0x100) 0 4 ≠ [0x4E, 0x43, 0x53, 0x44] ∨
         slice (slice file (start + 0x100) 0x100) 8 8 = zeros 8) :
    Cci.parse file start = .error (.other "InvalidCCIError") := by
  unfold Cci.parse
  dsimp only
  rcases h with h | h
  · rw [if_pos h]
  · split
    · rfl
    · rw [if_pos (by rw [h]; exact beq_self_eq_true _)]

/-- the listed partitions are exactly the table entries with a non-zero offset, at offset·0x200 with size·0x200 -/
theorem C10_cci_partitions (header : Bytes) (p : Cci.Part) :
    p ∈ Cci.partsOf header ↔
      p.index < 8 ∧ p.offset = Cci.le header (0x20 + 8 * p.index) 4 * 0x200 ∧ p.offset ≠ 0 ∧
      p.size = Cci.le header (0x24 + 8 * p.index) 4 * 0x200 := by
  simp only [Cci.partsOf, List.mem_filterMap, List.mem_range]
  constructor
  · rintro ⟨i, hi, h⟩
    split at h
    · rename_i hne
      cases h
      exact ⟨hi, rfl, hne, rfl⟩
    · cases h
  · rintro ⟨hi, ho, hne, hs⟩
    refine ⟨p.index, hi, ?_⟩
    rw [← ho, if_pos hne, ← hs]

/-- each partition view is the window `[start + offset, + size)` of the image: exactly the packed NCCH bytes (C09) -/
theorem C10_cci_view (buf : Bytes) (lo size : Nat) (h : lo + size ≤ buf.length) :
    Sub.invSub (fun _ => True) PyFile.abs ⟨⟨buf, 0⟩, lo, size, 0⟩ ∧
    (Sub.absSub PyFile.abs ⟨⟨buf, 0⟩, lo, size, 0⟩).content = slice buf lo size :=
  ⟨⟨trivial, by simpa [PyFile.abs] using h⟩, rfl⟩

/-- CDN content selection: the lower-case file name wins, the upper-case one is the fallback, a record whose file is
    missing is skipped … -/
theorem C10_cdn_choose (isfile : Bytes → Bool) (lo up : Bytes) :
    Cdn.chooseFile isfile lo up =
      if isfile lo then some lo else if isfile up then some up else none := rfl

/-- … without affecting the other records: the selected list is the sublist of records whose file exists, in TMD order -/
theorem C10_cdn_selection (isfile : Bytes → Bool) (names : Tmd.ChunkRecord → Bytes × Bytes)
    (records : List Tmd.ChunkRecord) :
    (Cdn.select isfile names records).map (·.1) =
      records.filter fun r => isfile (names r).1 || isfile (names r).2 := by
  rw [Cdn.select, List.map_filterMap, ← List.filterMap_eq_filter]
  congr 1; funext r
  show _ = if (isfile (names r).1 || isfile (names r).2) = true then some r else none
  rw [← Cdn.chooseFile_isSome]
  cases Cdn.chooseFile isfile (names r).1 (names r).2 <;> rfl

/-- content views of a CDN directory: CBC under the title key over the content file (C02) or the plain file -/
theorem C10_cdn_view (D : Bytes → Bytes) :
    IsReadOnly (CbcIO.ops PyFile.ops D) (CbcIO.invCbc (fun _ => True) PyFile.abs) (CbcIO.absCbc D PyFile.abs) :=
  CbcIO.cbc_isReadOnly D pyfile_isFile.toIsReadable

/-- SD title directories: the listed contents are exactly the TMD records whose `<id>.app` exists, in TMD order - a missing
    file removes its own record and nothing else (a `break` instead of `continue` falsifies this) -/
theorem C10_sdtitle_selection (isfile : Bytes → Bool) (name : Tmd.ChunkRecord → Bytes) (records : List Tmd.ChunkRecord) :
    SdTitle.select isfile name records = records.filter fun r => isfile (name r) := by
  rw [SdTitle.select, foldl_unless_append]
  simp only [Bool.not_not, List.nil_append]

/-- **CDN title key, every source**: a supplied decrypted title key is used as it is (whatever else is supplied); the
    encrypted title key with its common-key index, and the ticket file `cetk` (of which only the first 0x2AC bytes are
    read), both yield the packed title key — for every engine that has the common-key KeyX (retail, and dev for an index
    other than 0), given that AES decryption inverts encryption -/
theorem C10_cdn_key_sources (E D : Bytes → Bytes → Bytes) (hED : ∀ k b, b.length = 16 → D k (E k b) = b) (hE : ∀ k b, b.length = 16 → (E k b).length = 16)
    (e : Engine) (x ky idx : Nat) (k tid : Bytes) (hx : e.keyX 0x3D = some x) (hk : k.length = 16) (htid : tid.length = 8)
    (hidx : Engine.commonKeyY[idx]? = some ky) (hnd : ¬ (e.dev = true ∧ idx = 0)) :
    let encTk := E (keygenSlot 0x3D x ky) (xorBytes k (tid ++ zeros 8))
    (∀ enc i c, (Cdn.setupKey D e tid k enc i c).1.normal 0x40 = some k) ∧
    (∀ c, (Cdn.setupKey D e tid [] encTk idx c).1.normal 0x40 = some k) ∧
    (∀ ticket : Bytes, 0x2AC ≤ ticket.length → slice ticket 0x1BF 16 = encTk → (ticket.getD 0x1F1 0).toNat = idx →
      slice ticket 0x1DC 8 = tid → ∀ i, (Cdn.setupKey D e tid [] [] i (some ticket)).1.normal 0x40 = some k) := by
  intro encTk
  have hload := (Engine.loadEncryptedTitlekey_packed E D hED hE e x ky idx k tid hx hk htid hidx hnd).2
  -- both keys are 16 bytes long, so neither is the empty string that `setupKey` takes for "not supplied"
  have hkne : k ≠ [] := List.ne_nil_of_length_pos (by rw [hk]; decide)
  have hxl : (xorBytes k (tid ++ zeros 8)).length = 16 := by simp [xorBytes, hk, htid]
  have hene : encTk ≠ [] := List.ne_nil_of_length_pos (by rw [hE _ _ hxl]; decide)
  refine ⟨fun enc i c => ?_, fun c => ?_, fun ticket hlen h1 h2 h3 i => ?_⟩
  · rw [Cdn.setupKey_dec D e tid k enc i c hkne]
    exact Engine.upd_self e.normal 0x40 k
  · rw [Cdn.setupKey_enc D e tid encTk idx c hene]
    exact hload
  · rw [Cdn.setupKey_cetk, Engine.loadFromTicket_take D e ticket hlen, Engine.loadFromTicket_eq D e ticket hlen, h1, h2, h3]
    exact hload

/-- **frame of the cartridge header**: what `CCIReader` makes of an image (accept / reject, media id, image size, the list
    of partitions with their offsets and sizes) depends on four fields only — magic, size, media id, partition table.
    Every other header byte (partition file-system / crypt types, the partition FLAGS incl. the media-unit exponent and
    the SDK 2.x card-device byte, hashes, reserved areas) and everything outside the header is irrelevant -/
theorem C10_cci_frame (file file' : Bytes) (start start' : Nat) (h : Cci.relevant file start = Cci.relevant file' start') :
    Cci.parse file start = Cci.parse file' start' := by
  simp only [Cci.relevant, Prod.mk.injEq] at h
  obtain ⟨h1, h2, h3, h4⟩ := h
  have hp := Cci.partsOf_table _ _ h4
  dsimp only [Cci.parse, Cci.le]
  rw [h1, h2, h3, hp]

end Pyctr.C10
