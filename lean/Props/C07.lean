/-
  C07 — ExeFS reader reproduces entries and bytes and honours documented name aliases.

  Model: PyctrModel/Fmt/Exefs.lean (`parse`, `normalize`, `lookup`, and the specification-side `build`); `stored`, `WfSlot` in
  Proofs/ExefsProofs.lean.
-/
import Proofs.ExefsProofs
import Proofs.SubRefines
namespace Pyctr.C07
open Exefs

/-- the reader reports exactly the stored names, offsets, sizes and hashes, in slot order (any slot positions, up to ten
    entries, pairwise distinct names) -/
theorem C07_roundtrip (table : List (Option Entry)) (hlen : table.length = 10) (hwf : ∀ o ∈ table, WfSlot o)
    (hdist : (stored table).Pairwise (fun a b => a.name ≠ b.name)) :
    parse (build table) = .ok (stored table) := by
  rw [parse, parseFrom_build table hlen hwf 10 0 rfl, List.drop_zero, foldl_dictInsert (stored table) [] hdist, List.nil_append]

/-- every stored name N (not starting with '/', not ending in '.bin') can be opened as N, /N, N.bin and /N.bin -/
theorem C07_alias (N : Bytes) (hne : N ≠ []) (h1 : N.head? ≠ some 0x2F)
    (h2 : endsWith (N.map lowerAscii) dotBin = false) :
    normalize N = N ∧ normalize ((0x2F : UInt8) :: N) = N ∧ normalize (N ++ dotBin) = N ∧
    normalize ((0x2F : UInt8) :: (N ++ dotBin)) = N := by
  refine ⟨?_, ?_, ?_, ?_⟩
  · rw [normalize, stripSlash_noslash N h1, stripBin_plain N h2]
  · rw [normalize, stripSlash_cons, stripBin_plain N h2]
  · -- a non-empty name keeps its first byte when `.bin` is appended
    have h1' : (N ++ dotBin).head? ≠ some 0x2F := by
      cases N with
      | nil => exact absurd rfl hne
      | cons a t => exact h1
    rw [normalize, stripSlash_noslash _ h1', stripBin_bin]
  · rw [normalize, stripSlash_cons, stripBin_bin]

/-- hence opening any of the four spellings of a stored name yields that entry -/
theorem C07_alias_lookup (es : List Entry) (e : Entry) (he : es.find? (·.name == e.name) = some e)
    (hne : e.name ≠ []) (h1 : e.name.head? ≠ some 0x2F) (h2 : endsWith (e.name.map lowerAscii) dotBin = false) :
    lookup es e.name = .ok e ∧ lookup es ((0x2F : UInt8) :: e.name) = .ok e ∧
    lookup es (e.name ++ dotBin) = .ok e ∧ lookup es ((0x2F : UInt8) :: (e.name ++ dotBin)) = .ok e := by
  obtain ⟨a, b, c, d⟩ := C07_alias e.name hne h1 h2
  simp only [lookup, if_true, a, b, c, d, he, and_self]

/-- a name that is not stored raises the not-found error -/
theorem C07_missing (es : List Entry) (p : Bytes) (h : ∀ e ∈ es, e.name ≠ normalize p) :
    lookup es p = .error (.other "ExeFSFileNotFoundError") := by
  have : es.find? (·.name == normalize p) = none := by
    rw [List.find?_eq_none]; intro e he; simpa using h e he
  simp [lookup, this]

/-- an entry offset that is not a multiple of 0x200 / a name byte >= 0x80 in a non-empty slot is rejected -/
theorem C07_reject_slot (header : Bytes) (i : Nat) (hraw : (slice header (16 * i) 16 == zeros 16) = false) :
    ((rstripNul (slice (slice header (16 * i) 16) 0 8)).any (· ≥ 0x80) = true →
        parseSlot header i = .error (.other "ExeFSNameError")) ∧
    ((rstripNul (slice (slice header (16 * i) 16) 0 8)).any (· ≥ 0x80) = false →
      readLE (slice (slice header (16 * i) 16) 8 4) % 0x200 ≠ 0 →
        parseSlot header i = .error (.other "BadOffsetError")) := by
  constructor
  · intro h; simp [parseSlot, hraw, h]
  · intro h h'; simp [parseSlot, hraw, h, h']

/-- an error in any slot (all earlier slots parsing) is the reader's result -/
theorem C07_reject (header : Bytes) (i : Nat) (hi : i < 10) (e : Err) (herr : parseSlot header i = .error e)
    (hok : ∀ j < i, ∃ r, parseSlot header j = .ok r) : parse header = .error e :=
  parseFrom_error header i e herr hok 10 0 [] (Nat.zero_le _) (by omega)

/-- opening an entry gives a window `[start + 0x200 + offset, +size)` of the file, hence (C09) exactly its bytes at
    every offset and nothing beyond them -/
theorem C07_bytes (buf : Bytes) (start : Nat) (e : Entry) (h : start + 0x200 + e.offset + e.size ≤ buf.length) :
    Sub.invSub (fun _ => True) PyFile.abs ⟨⟨buf, 0⟩, start + 0x200 + e.offset, e.size, 0⟩ ∧
    (Sub.absSub PyFile.abs ⟨⟨buf, 0⟩, start + 0x200 + e.offset, e.size, 0⟩).content =
      slice buf (start + 0x200 + e.offset) e.size :=
  ⟨⟨trivial, by simpa [PyFile.abs] using h⟩, rfl⟩

/-- non-vacuity: a table with two stored entries meets every hypothesis of `C07_roundtrip` -/
example :
    let t : List (Option Entry) :=
      [some ⟨[0x2E, 0x63, 0x6F, 0x64, 0x65], 0, 0x201, List.replicate 32 7⟩, none, none,
       some ⟨[0x69, 0x63, 0x6F, 0x6E], 0x400, 0x36C0, List.replicate 32 9⟩, none, none, none, none, none, none]
    t.length = 10 ∧ (∀ o ∈ t, WfSlot o) ∧ (stored t).Pairwise (fun a b => a.name ≠ b.name) ∧ (stored t).length = 2 := by
  refine ⟨rfl, ?_, by decide, rfl⟩
  simp only [List.forall_mem_cons, WfSlot, true_and]
  exact ⟨⟨by decide, by decide, by decide, by decide, by decide, by decide, by decide⟩,
    ⟨by decide, by decide, by decide, by decide, by decide, by decide, by decide⟩, nofun⟩

end Pyctr.C07
