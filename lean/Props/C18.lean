/-
  C18 — save containers: writes keep data, hash tree and header mutually consistent.

  Model: `lv4Write` (IVFCLevel4Reader.write), `writeData` (IVFCHashTree.write_data: hash propagation and cache
  invalidation), `dpWrite` (DPFSLevel3.write_data), `updateHashes` (Partition/DISA/DIFF._update_hashes, _update_cmac),
  `genCmac` (cmac.py) in PyctrModel/Save/{Tree,Container}.lean.  SHA-256 is `H`, AES-CMAC is `mac`.

  Proved here: position bookkeeping, the read-only error, the no-op cases; that the descriptor / header / CMAC update
  leaves a file whose table-hash check succeeds on re-open (DIFF: hash of the descriptor; DISA: hash of the WHOLE active
  table with only this partition's descriptor replaced); the DPFS level-3 write (scatter to the active copies + frame); the
  hash path on levels as arrays and, through a refinement theorem, on the container model, with the file frame; that
  re-opening the file after any session of seeks, reads and writes on a regular container gives the state the session holds
  (`Synced`, `C18_reopen_*`); and that over a fully verifying tree the verification caches stay sound and each partition's
  verified view behaves like an ordinary file (`Good3`, `C18_session*`).
-/
import Proofs.BytesLemmas
import Proofs.DescRoundtrip
import Proofs.SaveBlocks
import Proofs.SaveDpWrite
import Proofs.SaveDpfs
import Proofs.SaveHashPath
import Proofs.SaveOpen
import Proofs.SaveReopen
import Proofs.SaveSession
import Proofs.SaveSynced
import Proofs.SaveWrite
import Proofs.SaveWriteRefines
namespace Pyctr.C18
open Save

/-- a write of nothing (empty data, or at / past the end of level 4) returns 0 and changes nothing, writable or not -/
theorem C18_empty_write (H : Bytes → Bytes) (mac : Bytes → Bytes → Bytes) (cm : Option CmacScheme) (c : Cont) (pi : Nat)
    (p : PartSt) (hp : c.parts[pi]? = some p) (data : Bytes)
    (h : data = [] ∨ p.ivfc.lv4.size ≤ p.seek) : lv4Write H mac cm c pi data = .ok (0, c) :=
  lv4Write_empty H mac cm c pi p hp data (writeClamp_eq_nil p data h)

/-- writing to a container opened read-only raises the read-only error (an error returns no new state: nothing changes) -/
theorem C18_readonly (H : Bytes → Bytes) (mac : Bytes → Bytes → Bytes) (cm : Option CmacScheme) (c : Cont) (pi : Nat)
    (p : PartSt) (hp : c.parts[pi]? = some p) (data : Bytes) (hw : c.writable = false) (hne : writeClamp p data ≠ []) :
    lv4Write H mac cm c pi data = .error (.other "IVFCReadOnlyError") := by
  unfold lv4Write
  rw [hp]
  simp only
  unfold writeClamp at hne
  rw [if_neg (by simpa using hne), hw]
  simp

/-- sequential writes advance the position like an ordinary file of the level's size: a successful write returns the
    number of bytes that fit, moves this partition's position by exactly that, keeps its geometry, and does not touch the other
    partition's reader -/
theorem C18_position (H : Bytes → Bytes) (mac : Bytes → Bytes → Bytes) (cm : Option CmacScheme) (c : Cont) (pi : Nat)
    (p : PartSt) (hp : c.parts[pi]? = some p) (data : Bytes) (n : Nat) (c' : Cont)
    (h : lv4Write H mac cm c pi data = .ok (n, c')) :
    n = min data.length (p.ivfc.lv4.size - p.seek) ∧
      (∃ p', c'.parts[pi]? = some p' ∧ p'.seek = p.seek + n ∧ p'.ivfc = p.ivfc ∧ p'.difi = p.difi ∧ p'.dp = p.dp) ∧
      ∀ j, j ≠ pi → c'.parts[j]? = c.parts[j]? := by
  have hlt : pi < c.parts.length := (List.getElem?_eq_some_iff.mp hp).1
  obtain ⟨hn, hdone⟩ := lv4Write_inv H mac cm c pi p hp data n c' h
  refine ⟨by rw [hn, writeClamp_length], ?_⟩
  -- nothing was written; or `write_data` ran, with or without the descriptor update: both set partition `pi` alone
  rcases hdone with ⟨he, rfl⟩ | ⟨_, _, s, _, ⟨_, pd, F', hdr, _, _, rfl⟩ | ⟨_, rfl⟩⟩
  · rw [hn, he]; exact ⟨⟨p, hp, rfl, rfl, rfl, rfl⟩, fun _ _ => rfl⟩
  all_goals exact ⟨⟨_, List.getElem?_set_self hlt, rfl, rfl, rfl, rfl⟩, fun j hj => List.getElem?_set_ne (Ne.symm hj)⟩

/-- DIFF: after the descriptor update the file passes the table-hash check of a fresh open, and holds the CMAC of the
    new header when a scheme is supplied -/
theorem C18_update_diff (H : Bytes → Bytes) (mac : Bytes → Bytes → Bytes) (cm : Option CmacScheme) (c : Cont) (F : Bytes)
    (p : PartSt) (pd : Bytes) (F' header' : Bytes)
    (hk : c.kind = .diff) (hh : c.header.length = 0x100) (hH : ∀ x, (H x).length = 0x20)
    (hpd : pd.length = c.tableSize) (hne : pd ≠ []) (hoff : 0x200 ≤ c.tableOff) (hF : c.tableOff + c.tableSize ≤ F.length)
    (hmac : ∀ k x, (mac k x).length = 0x10)
    (h : updateHashes H mac cm c F p pd = .ok (F', header')) :
    slice F' c.tableOff c.tableSize = pd ∧ slice F' 0x100 0x100 = header' ∧ slice header' 0x34 0x20 = H pd ∧
      (∀ sch m, cm = some sch → genCmac H mac sch header' = .ok m → slice F' 0 0x10 = m) := by
  have _ := hne   -- not needed: `updateHashes_spec` holds for an empty descriptor too
  have hd : descPos c p = 0 := by simp [descPos, hk]
  have U := updateHashes_spec H mac cm c F p pd F' header' hh hH hmac (by omega) (by rw [hd]; omega) h
  have u4 := U.digest hoff
  simp only [tableDigest, hk] at u4
  refine ⟨?_, U.header, ?_, U.cmac⟩
  · -- the descriptor fills the table
    rw [updateHashes_table H mac cm c F p pd F' header' hh hH hmac hoff hF (by rw [hd]; omega) h, hd,
      overlay_full _ _ (by rw [slice_length]; omega)]
  · rw [u4]; exact (hdrView_assign .diff c.header (H pd) hh (hH _)).2.2

/-- DISA: the header hash is the hash of the whole active table after replacing this partition's descriptor -/
theorem C18_update_disa (H : Bytes → Bytes) (mac : Bytes → Bytes → Bytes) (cm : Option CmacScheme) (c : Cont) (F : Bytes)
    (p : PartSt) (pd : Bytes) (F' header' : Bytes)
    (hk : c.kind = .disa) (hh : c.header.length = 0x100) (hH : ∀ x, (H x).length = 0x20)
    (hpd : p.descOff + pd.length ≤ c.tableSize) (hne : pd ≠ []) (hoff : 0x200 ≤ c.tableOff)
    (hF : c.tableOff + c.tableSize ≤ F.length) (hmac : ∀ k x, (mac k x).length = 0x10)
    (h : updateHashes H mac cm c F p pd = .ok (F', header')) :
    slice F' c.tableOff c.tableSize = overlay (slice F c.tableOff c.tableSize) p.descOff pd ∧
      slice F' 0x100 0x100 = header' ∧ slice header' 0x6C 0x20 = H (slice F' c.tableOff c.tableSize) ∧
      (∀ sch m, cm = some sch → genCmac H mac sch header' = .ok m → slice F' 0 0x10 = m) := by
  have _ := hne   -- not needed, as above
  have hd : descPos c p = p.descOff := by simp [descPos, hk]
  have U := updateHashes_spec H mac cm c F p pd F' header' hh hH hmac (by omega) (by rw [hd]; omega) h
  have u4 := U.digest hoff
  simp only [tableDigest, hk] at u4
  refine ⟨?_, U.header, ?_, U.cmac⟩
  · rw [updateHashes_table H mac cm c F p pd F' header' hh hH hmac hoff hF (by rw [hd]; exact hpd) h, hd]
  · rw [u4]; exact (hdrView_assign .disa c.header _ hh (hH _)).2.2

/-- the CMAC schemes: what is hashed and MAC-ed (SAV0 wrapping for NOR0 / SIGN) -/
theorem C18_cmac_plain (H : Bytes → Bytes) (mac : Bytes → Bytes → Bytes) (c : CmacScheme) (header : Bytes)
    (h : c.sav0 = false) : genCmac H mac c header = .ok (mac c.key (H (c.magic ++ c.pre ++ header))) := by
  unfold genCmac; rw [h]; simp

theorem C18_cmac_sav0 (H : Bytes → Bytes) (mac : Bytes → Bytes → Bytes) (c : CmacScheme) (header : Bytes)
    (h : c.sav0 = true) (hl : header.length = 0x100) (hm : slice header 0 4 = [0x44, 0x49, 0x53, 0x41]) :
    genCmac H mac c header = .ok (mac c.key (H (c.magic ++ c.pre ++ H (sav0Magic ++ header)))) := by
  unfold genCmac; rw [h]; simp [hl, hm]

/-- **hash path** (on the levels as byte arrays; `absWrite` is `IVFCHashTree.write_data` with every level an array).  After a
    write the level is the old level with the data laid over it, the levels below it and all lengths are unchanged, and every
    block of the level that was touched, or whose chain was intact before, has an intact chain up to the updated master hashes.
    (`ZeroHash`: SHA-256 of some block is 32 zero bytes — such a block reads as "uninitialised".) -/
theorem C18_hash_path (H : Bytes → Bytes) (bsOf : Nat → Nat) (hbs : ∀ i, 0 < bsOf i) (hH : ∀ x, (H x).length = 0x20)
    (hnz : ¬ ZeroHash H) (idx offset : Nat) (data : Bytes) (L : Nat → Bytes) (master : List Bytes) (L' : Nat → Bytes)
    (master' : List Bytes) (hlen : 0 < data.length) (hin : offset + data.length ≤ (L idx).length)
    (hgeo : ∀ i, i < idx → nblocks (L (i + 1)).length (bsOf (i + 1)) * 0x20 ≤ (L i).length)
    (h : absWrite H bsOf idx offset data (L, master) = .ok (L', master')) :
    (∀ j, idx < j → L' j = L j) ∧ L' idx = overlay (L idx) offset data ∧ (∀ j, (L' j).length = (L j).length) ∧
      master'.length = master.length ∧
      ∀ b, b * bsOf idx < (L idx).length → (touched offset data.length (bsOf idx) b ∨ chainOK H bsOf master L idx b) →
        chainOK H bsOf master' L' idx b :=
  absWrite_chain H bsOf hbs hH hnz idx offset data L master L' master' hlen hin hgeo h

/-- at every level at or above the written one a write never invalidates a block that verified before -/
theorem C18_hash_path_all_levels (H : Bytes → Bytes) (bsOf : Nat → Nat) (hbs : ∀ i, 0 < bsOf i) (hH : ∀ x, (H x).length = 0x20)
    (hnz : ¬ ZeroHash H) (idx offset : Nat) (data : Bytes) (L : Nat → Bytes) (master : List Bytes) (L' : Nat → Bytes)
    (master' : List Bytes) (hlen : 0 < data.length) (hin : offset + data.length ≤ (L idx).length)
    (hgeo : ∀ i, i < idx → nblocks (L (i + 1)).length (bsOf (i + 1)) * 0x20 ≤ (L i).length)
    (h : absWrite H bsOf idx offset data (L, master) = .ok (L', master')) (lvl : Nat) (hl : lvl ≤ idx) (b : Nat)
    (hb : b * bsOf lvl < (L lvl).length) (hc : chainOK H bsOf master L lvl b) : chainOK H bsOf master' L' lvl b :=
  (absWrite_spec H bsOf hbs hH hnz idx offset data L master L' master' hlen hin hgeo h).kept lvl hl b hb hc

/-- hence a fully verifying tree stays fully verifying and its verified level-4 view becomes the old view with the data laid
    over it -/
theorem C18_view (H : Bytes → Bytes) (bsOf : Nat → Nat) (hbs : ∀ i, 0 < bsOf i) (hH : ∀ x, (H x).length = 0x20)
    (hnz : ¬ ZeroHash H) (offset : Nat) (data : Bytes) (L : Nat → Bytes) (master : List Bytes) (L' : Nat → Bytes)
    (master' : List Bytes) (hlen : 0 < data.length) (hin : offset + data.length ≤ (L 3).length)
    (hgeo : ∀ i, i < 3 → nblocks (L (i + 1)).length (bsOf (i + 1)) * 0x20 ≤ (L i).length)
    (hall : ∀ b, b * bsOf 3 < (L 3).length → chainOK H bsOf master L 3 b)
    (h : absWrite H bsOf 3 offset data (L, master) = .ok (L', master')) :
    (∀ b, b * bsOf 3 < (L' 3).length → chainOK H bsOf master' L' 3 b) ∧
      verifiedView H L' bsOf master' = overlay (verifiedView H L bsOf master) offset data :=
  absWrite_view H bsOf hbs hH hnz offset data L master L' master' hlen hin hgeo hall h

/-- `DPFSLevel3.write_data`: a non-empty write inside the level-3 view puts every byte into the copy that the level-2 bit of
    its block selects (`scatter`); nothing else in the partition window and nothing outside it changes -/
theorem C18_dpfs_write (w0 : Win) (dp : Dp) (hwf : DpWF w0.bytes dp) (offset : Nat) (data : Bytes) (hne : data ≠ [])
    (hin : offset + data.length ≤ dp.lv3.size) :
    ∃ w', dpWrite w0 dp offset data = .ok (data.length, w') ∧ w'.off = w0.off ∧ w'.size = w0.size ∧ w'.F.length = w0.F.length ∧
      (∀ z, (z < w0.off ∨ w0.off + w0.size ≤ z) → w'.F[z]? = w0.F[z]?) ∧
      (∀ x, offset ≤ x → x < offset + data.length → w'.bytes[scatter dp x]? = data[x - offset]?) ∧
      (∀ y, (∀ x, offset ≤ x → x < offset + data.length → y ≠ scatter dp x) → w'.bytes[y]? = w0.bytes[y]?) :=
  have ⟨w', h, fr, hw, hf⟩ := dpWrite_spec w0 dp hwf offset data hne hin
  ⟨w', h, fr.off, fr.size, fr.flen, fr.outside, hw, hf⟩

/-- refinement: on a regular geometry (`geomOK`, decidable, evaluated by the driver on every write of every run) the model's
    `IVFCHashTree.write_data` — DPFS copies, sequential re-read, recursion up the levels — computes on the levels of the
    partition exactly what `absWrite` computes, and leaves the file outside the partition window alone -/
theorem C18_refines (H : Bytes → Bytes) (t : Tree) (hH : ∀ x, (H x).length = 0x20) (idx : Nat) (hidx : idx < 4) (offset : Nat)
    (data : Bytes) (s s' : WState) (hg : geomOK s.w.bytes t s.master = true) (hne : data ≠ [])
    (hin : offset + data.length ≤ (t.level idx).size) (h : writeData H t idx offset data s = .ok s') :
    absWrite H (fun i => (t.level i).bs) idx offset data (Lof s.w.bytes t, s.master) = .ok (Lof s'.w.bytes t, s'.master) ∧
      s'.w.off = s.w.off ∧ s'.w.size = s.w.size ∧ s'.w.F.length = s.w.F.length ∧
      (∀ z, (z < s.w.off ∨ s.w.off + s.w.size ≤ z) → s'.w.F[z]? = s.w.F[z]?) := by
  have r := writeData_spec H t hH idx hidx offset data s s' (geomP_of_b _ _ _ hg) hne hin h
  exact ⟨r.refines, r.win.off, r.win.size, r.win.flen, r.win.outside⟩

/-- **hash path and frame on the container model** (`IVFCLevel4Reader.write` = clamp, `write_data`, descriptor / header / CMAC
    update).  `Bd` separates the header, the tables and the re-serialised descriptor (below) from the partition (at or above).
    `hdesc` asks the descriptor bound of every list of master hashes `m`; `Save.lv4Write_path`, from which this follows, asks it
    only of the master hashes that `write_data` returns. -/
theorem C18_write_hash_path (H : Bytes → Bytes) (mac : Bytes → Bytes → Bytes) (cm : Option CmacScheme) (c : Cont) (pi : Nat)
    (p : PartSt) (hp : c.parts[pi]? = some p) (data : Bytes) (n : Nat) (c' : Cont)
    (hH : ∀ x, (H x).length = 0x20) (hmac : ∀ k x, (mac k x).length = 0x10) (hnz : ¬ ZeroHash H) (hh : c.header.length = 0x100)
    (hg : geomOK (p.P c.F) p.tree p.master = true) (hne : writeClamp p data ≠ [])
    (Bd : Nat) (hB1 : 0x200 ≤ Bd) (hB2 : Bd ≤ p.pOff) (hB3 : p.pOff ≤ c.F.length)
    (hdesc : ∀ m pd, partdescToBytes ⟨p.difi, p.ivfc, p.dpfs, m⟩ p.descSize = some pd → c.tableOff + p.descOff + pd.length ≤ Bd)
    (h : lv4Write H mac cm c pi data = .ok (n, c')) :
    ∃ p', c'.parts[pi]? = some p' ∧ p'.tree = p.tree ∧ p'.pOff = p.pOff ∧ p'.pSize = p.pSize ∧
      Lof (p'.P c'.F) p.tree 3 = overlay (Lof (p.P c.F) p.tree 3) p.seek (writeClamp p data) ∧
      (∀ b, b * (p.tree.level 3).bs < (Lof (p.P c.F) p.tree 3).length →
        (touched p.seek (writeClamp p data).length (p.tree.level 3).bs b ∨ chainOK H p.bsOf p.master (Lof (p.P c.F) p.tree) 3 b) →
        chainOK H p.bsOf p'.master (Lof (p'.P c'.F) p.tree) 3 b) ∧
      c'.F.length = c.F.length ∧
      (∀ z, Bd ≤ z → (z < p.pOff ∨ p.pOff + p.pSize ≤ z) → c'.F[z]? = c.F[z]?) :=
  lv4Write_path H mac cm c pi p hp data n c' hH hmac hnz hh (geomP_of_b _ _ _ hg) hne Bd hB1 hB2 hB3
    (fun s pd _ => hdesc s.master pd) h

/-- opening a container gives a state that is *synced* with its file: re-opening the file yields the same header, table
    position, and per partition the same descriptor fields, master hashes and DPFS selection (everything but caches / positions) -/
theorem C18_open_synced (H : Bytes → Bytes) (kind : Kind) (F : Bytes) (w : Bool) (c : Cont) (h : openCont H kind F w = .ok c) :
    Synced H c := open_synced H kind F w c h

/-- **re-opening after a write (DIFF)**: `Synced` is preserved by every write through the verified level-4 view - so after any
    sequence of writes, opening the file again parses back the very state the session ended with (new master hashes included).
    Side conditions, all decidable and evaluated by the driver on every generated image (`save-hyp`: letters g, t, w, r):
    regular geometry, DPFS tables outside the data windows, a well-formed descriptor, header/table below the partition. -/
theorem C18_reopen_diff (H : Bytes → Bytes) (mac : Bytes → Bytes → Bytes) (cm : Option CmacScheme) (c : Cont)
    (p : PartSt) (hk : c.kind = .diff) (hp : c.parts[0]? = some p) (data : Bytes) (n : Nat) (c' : Cont)
    (hH : ∀ x, (H x).length = 0x20) (hmac : ∀ k x, (mac k x).length = 0x10)
    (hs : Synced H c)
    (hg : geomOK (p.P c.F) p.tree p.master = true)
    (hta : tablesApartB p.dpfs p.tree = true)
    (hwf : descWFB ⟨p.difi, p.ivfc, p.dpfs, p.master⟩ p.descSize = true)
    (hL1 : 0x200 ≤ c.tableOff) (hL2 : c.tableOff + c.tableSize ≤ p.pOff) (hL3 : p.pOff ≤ c.F.length)
    (h : lv4Write H mac cm c 0 data = .ok (n, c')) : Synced H c' := by
  -- a synced DIFF container has one partition, whose descriptor is the table: the layout conditions reduce to `hL1 hL2 hL3`
  have hd := hs.diff_desc hk (by omega) 0 p hp
  have lay : DisaLayout c 0 p :=
    { tOff := hL1, tEnd := by omega, dIn := by rw [hd.1, hd.2]; omega, pLo := hL2, pIn := hL3
      others := fun j q hj hq => by
        have hl := ((synced_iff H c).mp hs).partsLen
        rw [hk] at hl
        have := (List.getElem?_eq_some_iff.mp hq).1
        exact absurd (show j = 0 by rw [hl] at this; exact Nat.lt_one_iff.mp this) hj }
  exact lv4Write_synced H mac cm c 0 p hp data n c' hH hmac hs
    { geom := geomP_of_b _ _ _ hg, tabs := tablesApart_of_b _ _ hta, desc := descWF_of_b _ _ hwf, lay := lay } h

/-- **re-opening after a write (DISA, either partition)**: the same under the layout condition `reopenLayoutB`, which for two
    partitions also asks that their descriptors and windows lie apart -/
theorem C18_reopen_disa (H : Bytes → Bytes) (mac : Bytes → Bytes → Bytes) (cm : Option CmacScheme) (c : Cont) (pi : Nat)
    (p : PartSt) (hk : c.kind = .disa) (hp : c.parts[pi]? = some p) (data : Bytes) (n : Nat) (c' : Cont)
    (hH : ∀ x, (H x).length = 0x20) (hmac : ∀ k x, (mac k x).length = 0x10)
    (hs : Synced H c)
    (hg : geomOK (p.P c.F) p.tree p.master = true)
    (hta : tablesApartB p.dpfs p.tree = true)
    (hwf : descWFB ⟨p.difi, p.ivfc, p.dpfs, p.master⟩ p.descSize = true)
    (hL : reopenLayoutB c pi p = true)
    (h : lv4Write H mac cm c pi data = .ok (n, c')) : Synced H c' :=
  have _ := hk   -- not needed: `lv4Write_synced` serves either kind
  lv4Write_synced H mac cm c pi p hp data n c' hH hmac hs (partOK_of_b c pi p hg hta hwf hL) h

/-- **every session, either container kind**: open a container that meets the (decidable) regularity conditions, make ANY
    sequence of seeks, reads and writes through the verified level-4 views of its partitions (stopping at the first exception):
    re-opening the file afterwards gives exactly the state the session holds.  The regularity conditions themselves are part of
    the invariant (`Good`): they survive every operation, so they need to be checked on the opened image only - the driver does
    so for every generated image (`save-hyp`). -/
theorem C18_reopen_session (H : Bytes → Bytes) (mac : Bytes → Bytes → Bytes) (cm : Option CmacScheme) (kind : Kind) (F : Bytes)
    (w : Bool) (c c' : Cont) (ops : List Lv4Op)
    (hH : ∀ x, (H x).length = 0x20) (hmac : ∀ k x, (mac k x).length = 0x10)
    (ho : openCont H kind F w = .ok c) (hr : regularB c = true)
    (hrun : lv4Run H mac cm c ops = .ok c') : Synced H c' ∧ ∀ pi p, c'.parts[pi]? = some p → PartOK c' pi p :=
  have hG := lv4Run_good H mac cm hH hmac ops c c' (good_of_regular H kind F w c ho hr) hrun
  ⟨hG.1, hG.2⟩

/-- **same session, a write** (on a regular container whose tree verifies completely, caches sound): the invariant survives
    - in particular every verification cache is still sound although only the entries of the touched blocks were dropped -,
    the written partition's verified view is the old view with the clamped data laid over it at the reader's position, the
    position advances by the byte count returned, and no other partition's view changes. -/
theorem C18_session_write (H : Bytes → Bytes) (mac : Bytes → Bytes → Bytes) (cm : Option CmacScheme) (c : Cont) (pi : Nat)
    (data : Bytes) (n : Nat) (c' : Cont)
    (hH : ∀ x, (H x).length = 0x20) (hmac : ∀ k x, (mac k x).length = 0x10) (hnz : ¬ ZeroHash H)
    (hG : Good3 H c) (h : lv4Write H mac cm c pi data = .ok (n, c')) :
    Good3 H c' ∧ ∃ p p', c.parts[pi]? = some p ∧ c'.parts[pi]? = some p' ∧
      n = (writeClamp p data).length ∧ p'.seek = p.seek + n ∧
      p'.view H c'.F = (if writeClamp p data = [] then p.view H c.F else overlay (p.view H c.F) p.seek (writeClamp p data)) ∧
      ∀ j q, j ≠ pi → c.parts[j]? = some q → c'.parts[j]? = some q ∧ q.view H c'.F = q.view H c.F :=
  lv4Write_good3 H mac cm c pi data n c' hH hmac hnz hG h

/-- **same session, a read**: returns the slice of the partition's current view at the reader's position (clamped like a file
    read), advances the position by the bytes returned, changes no file byte and keeps the invariant -/
theorem C18_session_read (H : Bytes → Bytes) (c : Cont) (pi : Nat) (size : Int) (d : Bytes) (c' : Cont)
    (hG : Good3 H c) (h : contRead H c pi size = .ok (d, c')) :
    Good3 H c' ∧ c'.F = c.F ∧ ∃ p, c.parts[pi]? = some p ∧
      d = slice (p.view H c.F) p.seek (readCount p.ivfc.lv4.size p.seek size) ∧
      ∃ ca, c'.parts = c.parts.set pi { p with caches := ca, seek := p.seek + d.length } :=
  contRead_good3 H c pi size d c' hG h

/-- **every session on a fully verifying regular container**: the invariant `Good3` (re-opening gives the session's state;
    caches sound; tree fully verifying; regularity) holds after any sequence of seeks, reads and writes - so by the two step
    theorems above each partition's verified view behaves like an ordinary file, and by `C18_reopen_session` the same view is
    what a fresh open shows.  `regularB` and `allValidB` are decidable and evaluated by the driver on every generated image
    (`save-hyp`, letters r and v). -/
theorem C18_session (H : Bytes → Bytes) (mac : Bytes → Bytes → Bytes) (cm : Option CmacScheme) (kind : Kind) (F : Bytes)
    (w : Bool) (c c' : Cont) (ops : List Lv4Op)
    (hH : ∀ x, (H x).length = 0x20) (hmac : ∀ k x, (mac k x).length = 0x10) (hnz : ¬ ZeroHash H)
    (ho : openCont H kind F w = .ok c) (hr : regularB c = true)
    (hv : c.parts.all (fun p => allValidB H p.tree p.master (p.P c.F)) = true)
    (hrun : lv4Run H mac cm c ops = .ok c') : Good3 H c' :=
  lv4Run_good3 H mac cm hH hmac hnz ops c c' (good3_of_open H kind F w c ho hr hv) hrun

end Pyctr.C18
