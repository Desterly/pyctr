/-
  C13 — NAND: each partition is decrypted with the keyslot and counter its type dictates.

  Model: PyctrModel/Fmt/Nand.lean (`Header.fromBytes` / `toBytes`, `typeOf`, `stageKeys` / `stageCid` / `stageCounters` /
  `stageMbr`, `open'`, `openRaw`, `openSub`), PyctrModel/Engine/Otp.lean (`setupKeysFromOtp`).  The data plane of a view is
  the C01 / C09 / C12 stack `window ∘ CTR-or-TWL wrapper ∘ window ∘ file`.
  AES = `E`/`D`, SHA-256 = `H256`, SHA-1 = `H1` are parameters.  Specification: `UnusedZero` in Proofs/NandProofs.lean.
-/
import Proofs.BytesLemmas
import Proofs.CtrRefines
import Proofs.NandProofs
import Proofs.Sim
import Proofs.SubRefines
import Proofs.TwlRefines
namespace Pyctr.C13
open Nand

/-- the keyslot of each base wrapper: TWL → 0x03 (a DSi-mode slot), CTR old/new → 0x04/0x05, FIRM → 0x06, AGB → 0x07 -/
theorem C13_slot_table :
    Base.slot .twl = 0x03 ∧ Base.slot .ctrOld = 0x04 ∧ Base.slot .ctrNew = 0x05 ∧ Base.slot .firm = 0x06 ∧ Base.slot .agb = 0x07 :=
  ⟨rfl, rfl, rfl, rfl, rfl⟩

/-- partition typing, for every table entry: (fs 1, crypt 1) → TWL, (1, 2) → CTR old, (1, 3) → CTR new, fs 3 → FIRM, fs 4 → AGB
    whatever the crypt type; everything else has no wrapper -/
theorem C13_type_table :
    (∀ n, (typeOf 1 1 n).1 = some .twl) ∧ (∀ n, (typeOf 1 2 n).1 = some .ctrOld) ∧ (∀ n, (typeOf 1 3 n).1 = some .ctrNew) ∧
    (∀ c n, (typeOf 3 c n).1 = some .firm) ∧ (∀ c n, (typeOf 4 c n).1 = some .agb) ∧
    (∀ fs c n, fs ≠ 1 → fs ≠ 3 → fs ≠ 4 → (typeOf fs c n).1 = none) ∧
    (∀ c n, c ≠ 1 → c ≠ 2 → c ≠ 3 → (typeOf 1 c n).1 = none) := by
  refine ⟨fun _ => rfl, fun _ => rfl, fun _ => rfl, fun _ _ => rfl, fun _ _ => rfl, ?_, ?_⟩
  · intro fs c n h1 h3 h4; simp [typeOf, h1, h3, h4]
  · intro c n h1 h2 h3; simp [typeOf, h1, h2, h3]

/-- what an opened NAND carries (keys from the OTP, counters from the CID that is used, indexes, auto-raise) -/
theorem C13_open (E D : Bytes → Bytes → Bytes) (H256 H1 : Bytes → Bytes) (e0 : Engine)
    (okey oiv keygen img : Bytes) (otp cid : Option Bytes) (ar : Bool) (s : State)
    (h : open' E D H256 H1 e0 okey oiv keygen img otp cid ar = .ok s) :
    Header.fromBytes (slice img 0 0x200) = .ok s.header ∧
    stageKeys E D H256 e0 okey oiv keygen img s.essential otp = .ok s.engine ∧
    stageCounters E D H256 H1 s.engine img s.header s.twlIndex s.ctrIndex (stageCid img s.essential cid)
      = .ok (s.counter, s.counterTwl) ∧
    s.twlIndex = findIndex s.header.table (· == .twl) ∧
    s.ctrIndex = findIndex s.header.table (fun b => b == .ctrOld || b == .ctrNew) ∧
    (ar = true → s.ctrParts ≠ [] ∧ s.twlParts ≠ []) := by
  revert h
  fun_cases open' E D H256 H1 e0 okey oiv keygen img otp cid ar
  -- eight ways to fail, and the one that succeeds
  case case9 _ _ _ header hh _ _ _ eng hk counter counterTwl hc _ ctrParts _ twlParts _ h1 h2 =>
    intro h
    obtain rfl := Except.ok.inj h
    refine ⟨hh, hk, hc, rfl, rfl, ?_⟩
    rintro rfl
    simpa only [true_and, List.isEmpty_iff] using And.intro h1 h2
  all_goals exact fun h => nomatch h

/-- counters from a CID: CTR = big-endian first 16 bytes of SHA-256, TWL = little-endian first 16 bytes of SHA-1 -/
theorem C13_counters_from_cid (E D : Bytes → Bytes → Bytes) (H256 H1 : Bytes → Bytes) (eng : Engine) (img : Bytes)
    (header : Header) (ti ci : Option Int) (c : Bytes) :
    stageCounters E D H256 H1 eng img header ti ci (some c) =
      .ok (some (readBE (slice (H256 c) 0 0x10) : Int), some (readLE (slice (H1 c) 0 0x10) : Int)) :=
  counters_from_cid E D H256 H1 eng img header ti ci c

/-- **inference (CTR)**: when the CID is withheld and the CTR MBR has its standard zero blocks, the inferred counter
    is the one the image was encrypted with -/
theorem C13_infer_ctr (E D : Bytes → Bytes → Bytes) (key img : Bytes) (partOff c : Nat)
    (hE : ∀ b, (E key b).length = 16) (hD : ∀ b, b.length = 16 → D key (E key b) = b)
    (hpos : partOff + 0x1D0 + 32 ≤ img.length) (hc : c + (partOff + 0x1D0) / 16 + 1 < 2 ^ 128)
    (hb0 : slice img (partOff + 0x1D0) 16 = E key (toBE 16 (c + (partOff + 0x1D0) / 16)))
    (hb1 : slice img (partOff + 0x1D0 + 16) 16 = E key (toBE 16 (c + (partOff + 0x1D0) / 16 + 1))) :
    inferCtr E D key img partOff = some (c : Int) := by
  unfold inferCtr
  have hmin : min (partOff + 0x1D0) img.length = partOff + 0x1D0 := Nat.min_eq_left (Nat.le_trans (Nat.le_add_right _ 32) hpos)
  have hl0 : (slice img (partOff + 0x1D0) 16).length = 16 := slice_length_of_le img (by omega)
  simp only [hmin]
  -- decrypting the first block gives the counter it was encrypted under; the second block is the keystream block of the next one
  rw [hl0, hb0, hb1, hD _ (toBE_length _ _), readBE_toBE _ _ (Nat.lt_of_succ_lt hc), counter_found, counter_next c _ hc,
    ctrBlock_keystream E key _ hc (hE _), if_pos rfl]

/-- **inference (TWL)**: with the standard TWL MBR (the two known blocks at +0x1C0 / +0x1D0, DSi-mode byte reversal) -/
theorem C13_infer_twl (E D : Bytes → Bytes → Bytes) (key img : Bytes) (partOff c : Nat)
    (hE : ∀ b, (E key b).length = 16) (hD : ∀ b, b.length = 16 → D key (E key b) = b)
    (hpos : partOff + 0x1C0 + 32 ≤ img.length) (hc : c + (partOff + 0x1C0) / 16 + 1 < 2 ^ 128)
    (hb0 : slice img (partOff + 0x1C0) 16 = xorBytes (toBE 16 twlKnown0) (E key (toBE 16 (c + (partOff + 0x1C0) / 16))).reverse)
    (hb1 : slice img (partOff + 0x1C0 + 16) 16 = xorBytes twlKnown1 (E key (toBE 16 (c + (partOff + 0x1C0) / 16 + 1))).reverse) :
    inferTwl E D key img partOff = some (c : Int) := by
  unfold inferTwl
  have hmin : min (partOff + 0x1C0) img.length = partOff + 0x1C0 := Nat.min_eq_left (Nat.le_trans (Nat.le_add_right _ 32) hpos)
  have hl0 : (slice img (partOff + 0x1C0) 16).length = 16 := slice_length_of_le img (by omega)
  simp only [hmin]
  -- the first block XOR its known plaintext is the (reversed) keystream block, which decrypts to the counter; the second block
  -- under the next counter decrypts to its known plaintext
  rw [hl0, hb0, hb1, twl_keystream_block _ (by decide) _ (hE _), hD _ (toBE_length _ _), readBE_toBE _ _ (Nat.lt_of_succ_lt hc),
    counter_found, counter_next c _ hc, twlBlock_known E key _ hc twlKnown1 (hE _), if_pos rfl]

/-- **header round trip**: a header that parses (magic, media id 0, legal image size) and whose unused table slots are
    all-zero serialises back to the original 512 bytes -/
theorem C13_header_roundtrip (b : Bytes) (hd : Header) (h : Header.fromBytes b = .ok hd)
    (hwf : UnusedZero (slice b 0x110 8) (slice b 0x118 8) (slice b 0x120 0x40)) : hd.toBytes = b :=
  header_roundtrip b hd h hwf

/-- **views (CTR / FIRM / AGB)**: a window on the CTR wrapper on the image window behaves as an ordinary fixed-size file
    over the decrypted bytes for every read/write/seek/tell history: writes re-encrypt in place (C12) -/
theorem C13_view_ctr (E : Bytes → Bytes) :
    IsFile (Sub.ops (CtrIO.ops (Sub.ops PyFile.ops) E))
      (Sub.invSub (CtrIO.invCtr (Sub.invSub (fun _ => True) PyFile.abs) (Sub.absSub PyFile.abs))
        (CtrIO.absCtr E (Sub.absSub PyFile.abs)))
      (Sub.absSub (CtrIO.absCtr E (Sub.absSub PyFile.abs))) :=
  Sub.sub_isFile (CtrIO.ctr_isFile_of_fixed E (Sub.sub_isFile pyfile_isFile.toIsFileW).toIsFileW (fun _ _ => rfl)).toIsFileW

/-- **views (TWL)**: the same through the DSi-mode wrapper -/
theorem C13_view_twl (E : Bytes → Bytes) :
    IsFile (Sub.ops (TwlIO.ops (Sub.ops PyFile.ops) E))
      (Sub.invSub (TwlIO.invTwl (Sub.invSub (fun _ => True) PyFile.abs)) (TwlIO.absTwl E (Sub.absSub PyFile.abs)))
      (Sub.absSub (TwlIO.absTwl E (Sub.absSub PyFile.abs))) :=
  Sub.sub_isFile (TwlIO.twl_isFile_of_fixed E (Sub.sub_isFile pyfile_isFile.toIsFileW).toIsFileW (fun _ _ => rfl)).toIsFileW

/-- non-vacuity of the round trip hypothesis: an all-zero table is well-formed -/
example : UnusedZero (zeros 8) (zeros 8) (zeros 64) := by
  intro i hi _
  exact ⟨by simp only [zeros, List.getElem?_replicate, if_pos hi], slice_zeros 64 (8 * i) 8 (by omega)⟩

end Pyctr.C13
