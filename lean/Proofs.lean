import Proofs.BitFields
import Proofs.BytesLemmas
import Proofs.AFileLemmas
import Proofs.SubRefines
import Proofs.Sim
import Proofs.XorStream
import Proofs.CtrRefines
import Proofs.TwlRefines
import Proofs.CbcRefines
import Proofs.EngineProofs
import Proofs.ExefsProofs
import Proofs.TmdRecords
import Proofs.TmdRoundtrip
import Proofs.RomfsProofs
import Proofs.MergerRefines
import Proofs.NcchViews
import Proofs.CiaProofs
import Proofs.SaveBlocks
import Proofs.SaveDpfs
import Proofs.SaveCache
import Proofs.SaveTamper
import Proofs.SaveOpen
import Proofs.SaveCont
import Proofs.SaveWrite
import Proofs.NandProofs
import Proofs.CloseProofs
import Proofs.CodecProofs
import Proofs.CostProofs
import Proofs.SchedProofs
import Proofs.ConfigProofs
import Proofs.SaveHashPath
import Proofs.SaveDpWrite
import Proofs.SaveWriteRefines
import Proofs.FullReadProofs
import Proofs.DescRoundtrip
import Proofs.SaveSynced
import Proofs.SaveReopen
import Proofs.SaveSession
import Proofs.LzssRoundtrip
